/-
Model of `pkg/runtime-tools/generate/generate.go` (`Generator.Adjust` and the per-field
`Adjust*` functions) together with the `opencontainers/runtime-tools` generator operations
they call (pinned module version, `generate/generate.go`):
`AddAnnotation/RemoveAnnotation`, `ClearProcessEnv/AddProcessEnv/addEnv`, `SetProcessArgs`,
`Add*Hook`, `RemoveDevice/AddDevice/AddLinuxResourcesDevice`, `SetLinuxCgroupsPath`,
`SetProcessOOMScoreAdj`, `SetLinuxResourcesCPU*`, `SetLinuxResourcesMemory{Limit,Swap}`,
`AddLinuxResourcesHugepageLimit`, `AddLinuxResourcesUnified`, `SetLinuxResourcesPidsLimit`,
`RemoveMount/AddMount/Mounts/ClearMounts`, `SetLinuxRootPropagation`.

The main definitions transcribe the REPAIRED code:
  * `AdjustAnnotations` makes two passes over the map, removals then sets
    (/repo commit 1f50159 "fix: apply annotation removals before additions");
  * `AdjustArgs` drops the leading `""` marker written by `UpdateArgs`
    (/repo commit ad4e689 "fix: strip the UpdateArgs() replace marker");
  * `AdjustEnv`, `AdjustDevices`, `AdjustMounts` process every removal before any set
    (/repo commit 6eaf34c "fix: process removals before additions of env, devices and mounts").
The `…Unfixed` definitions transcribe the code before each of these repairs; they are used by
the `unfixed_*` witness theorems and by the driver's diagnosis.

One function per field family, each a record update of `Oci.Spec` built from a *core*
function on the field alone (`Annotations.apply`, `Env.apply`, `Devices.apply`,
`Mounts.apply`, …), so that a family's theorems are about the core function and lift through
`adjust` by the projection lemmas in `Lemmas/GenerateFrame.lean`.

Go map iteration is modelled as iteration over the entry list in the order given; the
determinism theorems quantify over every permutation of that list.

External calls are parameters (`Externals`): the CDI injector, the block-I/O and RDT class
resolvers, and `getPropagation` of the host (`helpers_linux.go`, reads /proc/self/mountinfo).
`filepath.Clean` is transcribed (`cleanPath`).  Not modelled: the optional
`filterAnnotations`/`checkResources` callbacks (left at their defaults), specs without a
`Process` or `Linux` section.
Core Lean only.
-/
import NriModel.Api

namespace Nri.Generate
open Nri.Api
open Nri.Oci (Spec)

/-! ## Keyed lists: the runtime-tools operations on `[]Mount` / `[]LinuxDevice` -/

section Keyed
variable {α : Type} (key : α → Str)

/-- `RemoveMount(dest)` / `RemoveDevice(path)`: delete the FIRST element whose key is `k`
    (the Go loops `return` after the first match). -/
def removeFirst (k : Str) : List α → List α
  | [] => []
  | x :: r => if key x = k then r else x :: removeFirst k r

/-- `AddDevice(dev)`: overwrite the first element with the same key in place, else append. -/
def addOrReplace (x : α) : List α → List α
  | [] => [x]
  | y :: r => if key y = key x then x :: r else y :: addOrReplace x r

/-- The first element with key `k` (how a consumer of the spec looks an item up). -/
def find (k : Str) (l : List α) : Option α := l.find? (fun x => key x == k)

/-- No two elements share a key. -/
def NodupKeys (l : List α) : Prop := (l.map key).Nodup

instance (l : List α) : Decidable (NodupKeys key l) := by unfold NodupKeys; infer_instance

end Keyed

/-- Stable reordering "removals first, then sets" of an entry list (`rawKey` is the field that
    may carry the removal marker). The repaired list families behave as the unrepaired code
    run on this reordering (`Lemmas/Generate*.lean`). -/
def removalsFirst {ε : Type} (rawKey : ε → Str) (L : List ε) : List ε :=
  L.filter (fun e => isMarked (rawKey e)) ++ L.filter (fun e => !isMarked (rawKey e))

/-! ## Annotations (`AdjustAnnotations`) -/

namespace Annotations

/-- First pass of the repaired `AdjustAnnotations`: `RemoveAnnotation(key)` for every marked
    entry (Go `delete`). -/
def removals (ann : AList Str Str) (entries : List (Str × Str)) : AList Str Str :=
  entries.foldl (fun m e => if isMarked e.1 then AList.erase m (stripMarker e.1) else m) ann

/-- Second pass: `AddAnnotation(k, v)` for every unmarked entry (Go `m[k] = v`). -/
def sets (ann : AList Str Str) (entries : List (Str × Str)) : AList Str Str :=
  entries.foldl (fun m e => if isMarked e.1 then m else AList.insert m e.1 e.2) ann

/-- Repaired `AdjustAnnotations` on the annotation map when both `range` loops yield the map in
    the same order `entries` (the executable form used by `adjust`; see `applyOrders`). -/
def apply (ann : AList Str Str) (entries : List (Str × Str)) : AList Str Str :=
  sets (removals ann entries) entries

/-- Repaired `AdjustAnnotations` as Go really runs it: the two `for … range annotations` loops
    draw two INDEPENDENT iteration orders `π1` (removal loop) and `π2` (set loop) of the same
    map.  `apply ann E = applyOrders ann E E`; `Lemmas/GenerateAnnotations.lean` shows that
    every pair of orders gives the same map (`lookup_applyOrders`). -/
def applyOrders (ann : AList Str Str) (π1 π2 : List (Str × Str)) : AList Str Str :=
  sets (removals ann π1) π2

/-- `AdjustAnnotations` before commit 1f50159: ONE loop, each entry removed or set as it comes. -/
def applyUnfixed (ann : AList Str Str) (entries : List (Str × Str)) : AList Str Str :=
  entries.foldl
    (fun m e => if isMarked e.1 then AList.erase m (stripMarker e.1) else AList.insert m e.1 e.2) ann

end Annotations

/-- `Generator.AdjustAnnotations` (repaired). -/
def adjustAnnotations (s : Spec) (entries : AList Str Str) : Spec :=
  { s with annotations := Annotations.apply s.annotations entries }

/-- `Generator.AdjustAnnotations` at the original snapshot (before the repair), for the iteration order `entries`. -/
def adjustAnnotationsUnfixed (s : Spec) (entries : AList Str Str) : Spec :=
  { s with annotations := Annotations.applyUnfixed s.annotations entries }

/-! ## Environment (`AdjustEnv`, `ClearProcessEnv`, `AddProcessEnv`, `addEnv`) -/

namespace Env

/-- `strings.SplitN(e, "=", 2)` when it yields two pieces: name before the first `'='`, value
    after it; `none` when there is no `'='`. -/
def splitEq : Str → Option (Str × Str)
  | [] => none
  | c :: r =>
    if c = '=' then some ([], r)
    else match splitEq r with
      | some (n, v) => some (c :: n, v)
      | none => none

/-- The generator state `(Config.Process.Env, envMap)` after `ClearProcessEnv`, as the list of
    `(name, value)` pairs added so far: `Env[i] = name_i ++ "=" ++ value_i` and
    `envMap[name_i] = i`.  `AddProcessEnv(name, value)`: ignored for the empty name; replaces
    the entry of `name` in place if `envMap` knows it, else appends. -/
def addProcessEnv (acc : AList Str Str) (name value : Str) : AList Str Str :=
  if name = [] then acc else AList.insert acc name value

/-- `Config.Process.Env` of a generator state. -/
def render (acc : AList Str Str) : List Str := acc.map (fun e => e.1 ++ '=' :: e.2)

/-- The `mod` map of `AdjustEnv` at the original snapshot (before the repair): stripped key ↦ LAST entry for it. -/
def modUnfixed (env : List KeyValue) : AList Str KeyValue :=
  env.foldl (fun m e => AList.insert m (stripMarker e.key) e) []

/-- The `mod` map of the repaired `AdjustEnv`: all removals are entered first, then all sets,
    so a key that is set anywhere maps to its last set. -/
def mod (env : List KeyValue) : AList Str KeyValue :=
  modUnfixed (removalsFirst KeyValue.key env)

/-- "first modify existing environment": walk the old entries; entries without `'='` are
    skipped (dropped); a name found in `mod` is deleted from `mod` and replaced by the
    adjustment's entry unless that is a removal; other entries are re-added. -/
def phase1 : AList Str KeyValue × AList Str Str → List Str → AList Str KeyValue × AList Str Str
  | st, [] => st
  | (md, acc), e :: r =>
    match splitEq e with
    | none => phase1 (md, acc) r
    | some (n, v) =>
      match AList.lookup md n with
      | some m =>
        phase1 (AList.erase md n, if isMarked m.key then acc else addProcessEnv acc m.key m.value) r
      | none => phase1 (md, addProcessEnv acc n v) r

/-- "then append remaining unprocessed adjustments": every unmarked entry whose key is still in
    `mod`, in list order. -/
def phase2 (md : AList Str KeyValue) (acc : AList Str Str) (env : List KeyValue) : AList Str Str :=
  env.foldl (fun acc e =>
    if isMarked e.key then acc
    else if AList.contains md e.key then addProcessEnv acc e.key e.value else acc) acc

/-- `AdjustEnv` with a given `mod` map.  `len(mod) > 0` iff the adjustment list is non-empty;
    with an empty list neither loop does anything and the environment is left as it is. -/
def applyWith (md : AList Str KeyValue) (old : List Str) (env : List KeyValue) : List Str :=
  if env.isEmpty then old
  else
    let st := phase1 (md, []) old
    render (phase2 st.1 st.2 env)

/-- Repaired `AdjustEnv` on `Config.Process.Env`. -/
def apply (old : List Str) (env : List KeyValue) : List Str := applyWith (mod env) old env

/-- `AdjustEnv` at the original snapshot (before the repair). -/
def applyUnfixed (old : List Str) (env : List KeyValue) : List Str :=
  applyWith (modUnfixed env) old env

/-- Value of variable `k` in an OCI environment: the first entry `k=…`. -/
def lookup (env : List Str) (k : Str) : Option Str :=
  match env with
  | [] => none
  | e :: r =>
    match splitEq e with
    | some (n, v) => if n = k then some v else lookup r k
    | none => lookup r k

/-- Name of an OCI environment entry (the whole entry when it has no `'='`). -/
def nameOf (e : Str) : Str := match splitEq e with | some (n, _) => n | none => e

end Env

/-- `Generator.AdjustEnv` (repaired). -/
def adjustEnv (s : Spec) (env : List KeyValue) : Spec := { s with env := Env.apply s.env env }

/-- `Generator.AdjustEnv` at the original snapshot (before the repair). -/
def adjustEnvUnfixed (s : Spec) (env : List KeyValue) : Spec :=
  { s with env := Env.applyUnfixed s.env env }

/-! ## Args (`AdjustArgs`, `SetProcessArgs`) -/

namespace Args
/-- Repaired `AdjustArgs`: drop the leading `""` marker, then replace the command line unless
    nothing is left. -/
def apply (old : List Str) (args : List Str) : List Str :=
  let args := match args with | [] :: r => r | a => a
  if args.isEmpty then old else args

/-- `AdjustArgs` at the original snapshot (before the repair): any non-empty list replaces the command line as is. -/
def applyUnfixed (old : List Str) (args : List Str) : List Str :=
  if args.isEmpty then old else args
end Args

/-- `Generator.AdjustArgs` (repaired). -/
def adjustArgs (s : Spec) (args : List Str) : Spec := { s with args := Args.apply s.args args }
/-- `Generator.AdjustArgs` at the original snapshot (before the repair). -/
def adjustArgsUnfixed (s : Spec) (args : List Str) : Spec :=
  { s with args := Args.applyUnfixed s.args args }

/-! ## Hooks (`AdjustHooks`, `Add*Hook`) -/

namespace Hooks
/-- Each NRI hook list is converted and appended to the OCI list OF THE SAME NAME. -/
def apply (old : Oci.Hooks) (h : Api.Hooks) : Oci.Hooks :=
  { prestart := old.prestart ++ h.prestart.map Hook.toOCI
    poststart := old.poststart ++ h.poststart.map Hook.toOCI
    poststop := old.poststop ++ h.poststop.map Hook.toOCI
    createRuntime := old.createRuntime ++ h.createRuntime.map Hook.toOCI
    createContainer := old.createContainer ++ h.createContainer.map Hook.toOCI
    startContainer := old.startContainer ++ h.startContainer.map Hook.toOCI }
end Hooks

/-- `Generator.AdjustHooks`: nothing for a `nil` `*Hooks`. -/
def adjustHooks (s : Spec) (h : Option Api.Hooks) : Spec :=
  match h with
  | none => s
  | some h => { s with hooks := Hooks.apply s.hooks h }

/-! ## External functions handed to the generator -/

/-- Why `Adjust` returned an error. -/
inductive GenError
  | cdi               -- the CDI injector failed
  | blockio           -- the block-I/O class resolver failed
  | rdt               -- the RDT class resolver failed
  | mountPropagation  -- `ensurePropagation`: the host mount of a source is not shared enough
  deriving DecidableEq, Repr, Inhabited

/-- The functions a runtime configures with `With…` options, plus the host's mount table.
    `none` = option not given (the corresponding adjustment is then silently skipped, as in
    the Go code).  Their behaviour is ASSUMED, not modelled. -/
structure Externals where
  /-- `WithCDIDeviceInjector`: edits the spec for the given fully qualified names. -/
  injectCDI : Option (Spec → List Str → Except Unit Spec) := none
  /-- `WithBlockIOResolver`: class name ↦ block-I/O parameters (a tag here). -/
  resolveBlockIO : Option (Str → Except Unit Nat) := none
  /-- `WithRdtResolver`: class name ↦ `LinuxIntelRdt` (its `ClosID` here). -/
  resolveRdt : Option (Str → Except Unit Str) := none
  /-- `getPropagation(source)`: `"rshared"`, `"rslave"` or `""` for the host mount that
      contains `source`. -/
  hostPropagation : Str → Str := fun _ => []

/-- The CDI injector used by the correspondence harness: records the names, touches nothing
    else; fails when one of `bad` is requested. -/
def recordingInjector (bad : List Str) : Spec → List Str → Except Unit Spec :=
  fun s names => if names.any (fun n => bad.contains n) then .error () else .ok { s with cdi := s.cdi ++ names }

/-- `Generator.InjectCDIDevices`: nothing for an empty list or without an injector; otherwise
    ONE call with all names in list order. -/
def injectCDI (ext : Externals) (s : Spec) (names : List Str) : Except GenError Spec :=
  match ext.injectCDI with
  | none => .ok s
  | some inj =>
    if names.isEmpty then .ok s
    else match inj s names with
      | .ok s' => .ok s'
      | .error _ => .error .cdi

/-! ## Devices (`AdjustDevices`, `RemoveDevice`, `AddDevice`, `AddLinuxResourcesDevice`) -/

namespace Devices

/-- `(Linux.Devices, Linux.Resources.Devices)`. -/
abbrev State := List Oci.Device × List Oci.DeviceCgroup

/-- First loop of the repaired `AdjustDevices`: `RemoveDevice(key)` for every marked entry. -/
def removals (devs : List Oci.Device) (L : List LinuxDevice) : List Oci.Device :=
  L.foldl (fun ds d =>
    if isMarked d.path then removeFirst Oci.Device.path (stripMarker d.path) ds else ds) devs

/-- `AddDevice(ToOCI)` and `AddLinuxResourcesDevice(true, type, &major, &minor, access)` (the
    cgroup rule is always appended). -/
def addStep (st : State) (d : LinuxDevice) : State :=
  (addOrReplace Oci.Device.path d.toOCI st.1, st.2 ++ [d.cgroupRule])

/-- Body of the second loop for one unmarked entry: `RemoveDevice(path)`, then `addStep`. -/
def setStep (st : State) (d : LinuxDevice) : State :=
  addStep (removeFirst Oci.Device.path d.path st.1, st.2) d

/-- Second loop: every unmarked entry in list order. -/
def sets (st : State) (L : List LinuxDevice) : State :=
  L.foldl (fun st d => if isMarked d.path then st else setStep st d) st

/-- Repaired `AdjustDevices`. -/
def apply (st : State) (L : List LinuxDevice) : State := sets (removals st.1 L, st.2) L

/-- `AdjustDevices` before the repair: one loop; `RemoveDevice(stripped key)` for every entry,
    then the add for unmarked ones. -/
def applyUnfixed (st : State) (L : List LinuxDevice) : State :=
  L.foldl (fun st d =>
    if isMarked d.path then (removeFirst Oci.Device.path (stripMarker d.path) st.1, st.2)
    else addStep (removeFirst Oci.Device.path (stripMarker d.path) st.1, st.2) d) st

end Devices

/-- `Generator.AdjustDevices` (repaired). -/
def adjustDevices (s : Spec) (L : List LinuxDevice) : Spec :=
  let st := Devices.apply (s.devices, s.devRules) L
  { s with devices := st.1, devRules := st.2 }

/-- `Generator.AdjustDevices` at the original snapshot (before the repair). -/
def adjustDevicesUnfixed (s : Spec) (L : List LinuxDevice) : Spec :=
  let st := Devices.applyUnfixed (s.devices, s.devRules) L
  { s with devices := st.1, devRules := st.2 }

/-! ## Cgroups path, OOM score, rlimits -/

/-- `Generator.AdjustCgroupsPath`: `""` means "not requested". -/
def adjustCgroupsPath (s : Spec) (path : Str) : Spec :=
  if path = [] then s else { s with cgroupsPath := path }

/-- `Generator.AdjustOomScoreAdj`. -/
def adjustOomScoreAdj (s : Spec) (score : Option Int) : Spec :=
  match score with
  | none => s
  | some v => { s with oomScoreAdj := some v }

/-- `Generator.AdjustRlimits`: every entry is appended (no replacement of an existing type). -/
def adjustRlimits (s : Spec) (L : List POSIXRlimit) : Spec :=
  { s with rlimits := s.rlimits ++ L.map POSIXRlimit.toOCI }

/-! ## Resources (`AdjustResources`, `AdjustBlockIOClass`, `AdjustRdtClass`) -/

namespace Resources

/-- The seven `SetLinuxResourcesCPU*` calls, each guarded by "field present" (`!= nil`,
    `!= ""`), in the order period, quota, shares, cpus, mems, rt-runtime, rt-period. -/
def applyCpu (c : Oci.CPU) (r : LinuxCPU) : Oci.CPU :=
  let c := match r.period with | some v => { c with period := some v } | none => c
  let c := match r.quota with | some v => { c with quota := some v } | none => c
  let c := match r.shares with | some v => { c with shares := some v } | none => c
  let c := if r.cpus = [] then c else { c with cpus := r.cpus }
  let c := if r.mems = [] then c else { c with mems := r.mems }
  let c := match r.realtimeRuntime with | some v => { c with realtimeRuntime := some v } | none => c
  match r.realtimePeriod with | some v => { c with realtimePeriod := some v } | none => c

/-- `if l := r.Memory.GetLimit().GetValue(); l != 0 { SetLinuxResourcesMemoryLimit(l);
    SetLinuxResourcesMemorySwap(l) }` — an unset limit and a limit of 0 are both skipped, and
    no other memory field of the adjustment is applied. -/
def applyMemory (m : Oci.Memory) (r : LinuxMemory) : Oci.Memory :=
  match r.limit with
  | none => m
  | some l => if l = 0 then m else { m with limit := some l, swap := some l }

/-- `AddLinuxResourcesHugepageLimit(pageSize, limit)`: overwrite the limit of the first entry
    with that page size, else append. -/
def addHugepage (l : List Oci.HugepageLimit) (h : Api.HugepageLimit) : List Oci.HugepageLimit :=
  match l with
  | [] => [{ pageSize := h.pageSize, limit := h.limit }]
  | x :: r =>
    if x.pageSize = h.pageSize then { x with limit := h.limit } :: r else x :: addHugepage r h

/-- `for _, l := range r.HugepageLimits { AddLinuxResourcesHugepageLimit(…) }`. -/
def applyHugepages (l : List Oci.HugepageLimit) (hs : List Api.HugepageLimit) :
    List Oci.HugepageLimit := hs.foldl addHugepage l

/-- `for k, v := range r.Unified { AddLinuxResourcesUnified(k, v) }` for the iteration order
    `entries`. -/
def applyUnified (u : AList Str Str) (entries : List (Str × Str)) : AList Str Str :=
  entries.foldl (fun m e => AList.insert m e.1 e.2) u

end Resources

/-- `Generator.AdjustResources` (without a `checkResources` callback). -/
def adjustResources (s : Spec) (r : Option LinuxResources) : Spec :=
  match r with
  | none => s
  | some r =>
    let s := match r.cpu with
      | some c => { s with cpu := Resources.applyCpu s.cpu c }
      | none => s
    let s := match r.memory with
      | some m => { s with memory := Resources.applyMemory s.memory m }
      | none => s
    let s := { s with hugepages := Resources.applyHugepages s.hugepages r.hugepageLimits }
    let s := { s with unified := Resources.applyUnified s.unified r.unified }
    match r.pids with
    | some v => { s with pids := some v }
    | none => s

namespace Resources

/-- `AdjustBlockIOClass` on `Linux.Resources.BlockIO`: nothing without a class or without a
    resolver; class `""` clears; otherwise the resolver's answer is installed, or its error
    returned. -/
def applyBlockIO (resolve : Option (Str → Except Unit Nat)) (old : Option Nat) (c : Option Str) :
    Except GenError (Option Nat) :=
  match c, resolve with
  | none, _ => .ok old
  | some _, none => .ok old
  | some c, some f =>
    if c = [] then .ok none
    else match f c with
      | .ok b => .ok (some b)
      | .error _ => .error .blockio

/-- `AdjustRdtClass` on `Linux.IntelRdt` (same shape). -/
def applyRdt (resolve : Option (Str → Except Unit Str)) (old : Option Str) (c : Option Str) :
    Except GenError (Option Str) :=
  match c, resolve with
  | none, _ => .ok old
  | some _, none => .ok old
  | some c, some f =>
    if c = [] then .ok none
    else match f c with
      | .ok b => .ok (some b)
      | .error _ => .error .rdt

end Resources

/-- `Generator.AdjustBlockIOClass`. -/
def adjustBlockIOClass (ext : Externals) (s : Spec) (c : Option Str) : Except GenError Spec :=
  match Resources.applyBlockIO ext.resolveBlockIO s.blockio c with
  | .ok b => .ok { s with blockio := b }
  | .error e => .error e

/-- `Generator.AdjustRdtClass`. -/
def adjustRdtClass (ext : Externals) (s : Spec) (c : Option Str) : Except GenError Spec :=
  match Resources.applyRdt ext.resolveRdt s.rdt c with
  | .ok b => .ok { s with rdt := b }
  | .error e => .error e

/-! ## Mounts (`AdjustMounts`, `sortMounts`, `orderedMounts`) -/

namespace Mounts

/-- `strings.Split(p, "/")`. -/
def splitSlash : Str → List Str
  | [] => [[]]
  | c :: r =>
    if c = '/' then [] :: splitSlash r
    else match splitSlash r with
      | [] => [[c]]            -- unreachable: `splitSlash` never returns `[]`
      | x :: xs => (c :: x) :: xs

/-- One component of `filepath.Clean`'s scan, on the stack of components kept so far (top
    first): empty and `.` are skipped; `..` pops a real component, is kept at the front of a
    relative path, and is dropped at the root. -/
def cleanStep (rooted : Bool) (stack : List Str) (c : Str) : List Str :=
  if c = [] || c = str "." then stack
  else if c = str ".." then
    match stack with
    | top :: rest => if top = str ".." then c :: stack else rest
    | [] => if rooted then [] else [c]
  else c :: stack

/-- Join components with `/`. -/
def joinSlash : List Str → Str
  | [] => []
  | [x] => x
  | x :: y :: r => x ++ '/' :: joinSlash (y :: r)

/-- `filepath.Clean` (Unix): lexical normalisation; `""` ↦ `"."`. -/
def cleanPath (p : Str) : Str :=
  let rooted := match p with | '/' :: _ => true | _ => false
  let comps := ((splitSlash p).foldl (cleanStep rooted) []).reverse
  let body := joinSlash comps
  if rooted then '/' :: body else if body = [] then str "." else body

/-- `orderedMounts.parts`: `strings.Count(filepath.Clean(dest), "/")`. -/
def parts (dest : Str) : Nat := (cleanPath dest).count '/'

/-- Go's `<` on strings (bytewise on UTF-8 = by code point). -/
def strLt : Str → Str → Bool
  | [], [] => false
  | [], _ :: _ => true
  | _ :: _, [] => false
  | a :: as, b :: bs =>
    if a.toNat < b.toNat then true else if a.toNat = b.toNat then strLt as bs else false

/-- `orderedMounts.Less`: fewer path separators first, ties by the raw destination string. -/
def mountLt (a b : Oci.Mount) : Bool :=
  parts a.destination < parts b.destination ||
    (parts a.destination = parts b.destination && strLt a.destination b.destination)

/-- Insert into a sorted list, after every element that is not greater. -/
def insertSorted (m : Oci.Mount) : List Oci.Mount → List Oci.Mount
  | [] => [m]
  | x :: r => if mountLt m x then m :: x :: r else x :: insertSorted m r

/-- `sort.Sort(orderedMounts(mounts))`.  `Less` is a strict total order on mounts with distinct
    destinations, so every correct sorting algorithm returns the same list; insertion sort is
    also literally what `sort.Sort` runs on slices of at most 12 elements. -/
def sortMounts (l : List Oci.Mount) : List Oci.Mount := l.foldl (fun acc m => insertSorted m acc) []

/-- Loop state of `AdjustMounts`: the mount list, `Linux.RootfsPropagation`, and the local
    variable `propagation` (declared outside the loop, so it carries over between entries). -/
structure State where
  mounts : List Oci.Mount
  rootfs : Str
  prop : Str
  deriving DecidableEq, Repr

/-- First loop of the repaired `AdjustMounts`: `RemoveMount(dest)` for every marked entry. -/
def removals (ms : List Oci.Mount) (L : List Api.Mount) : List Oci.Mount :=
  L.foldl (fun ms m =>
    if isMarked m.destination then removeFirst Oci.Mount.destination (stripMarker m.destination) ms
    else ms) ms

/-- Loop body for one unmarked entry: `RemoveMount(dest)`; `ToOCI(&propagation)`; for
    `rshared`/`rslave` check the host mount of the source (`ensurePropagation`) and raise the
    rootfs propagation; `AddMount` (append). -/
def setStep (hostProp : Str → Str) (st : State) (m : Api.Mount) : Except GenError State :=
  let ms := removeFirst Oci.Mount.destination m.destination st.mounts
  let prop := m.propagationQuery st.prop
  let mnt := m.toOCI
  if prop = str "rshared" then
    if hostProp mnt.source = str "rshared" then
      .ok { mounts := ms ++ [mnt], rootfs := str "rshared", prop := prop }
    else .error .mountPropagation
  else if prop = str "rslave" then
    if hostProp mnt.source = str "rshared" || hostProp mnt.source = str "rslave" then
      let rootfs := if st.rootfs ≠ str "rshared" && st.rootfs ≠ str "rslave"
                    then str "rslave" else st.rootfs
      .ok { mounts := ms ++ [mnt], rootfs := rootfs, prop := prop }
    else .error .mountPropagation
  else .ok { mounts := ms ++ [mnt], rootfs := st.rootfs, prop := prop }

/-- Second loop: every unmarked entry in list order; the first error aborts. -/
def sets (hostProp : Str → Str) : State → List Api.Mount → Except GenError State
  | st, [] => .ok st
  | st, m :: r =>
    if isMarked m.destination then sets hostProp st r
    else match setStep hostProp st m with
      | .ok st' => sets hostProp st' r
      | .error e => .error e

/-- The loop of `AdjustMounts` at the original snapshot (before the repair): marked entries remove, others set, in
    list order. -/
def loopUnfixed (hostProp : Str → Str) : State → List Api.Mount → Except GenError State
  | st, [] => .ok st
  | st, m :: r =>
    if isMarked m.destination then
      loopUnfixed hostProp
        { st with mounts := removeFirst Oci.Mount.destination (stripMarker m.destination) st.mounts } r
    else match setStep hostProp st m with
      | .ok st' => loopUnfixed hostProp st' r
      | .error e => .error e

/-- Repaired `AdjustMounts` on `(Mounts, RootfsPropagation)`; untouched for an empty list
    (in particular NOT re-sorted). -/
def apply (hostProp : Str → Str) (ms : List Oci.Mount) (rootfs : Str) (L : List Api.Mount) :
    Except GenError (List Oci.Mount × Str) :=
  if L.isEmpty then .ok (ms, rootfs)
  else match sets hostProp { mounts := removals ms L, rootfs := rootfs, prop := [] } L with
    | .ok st => .ok (sortMounts st.mounts, st.rootfs)
    | .error e => .error e

/-- `AdjustMounts` at the original snapshot (before the repair). -/
def applyUnfixed (hostProp : Str → Str) (ms : List Oci.Mount) (rootfs : Str) (L : List Api.Mount) :
    Except GenError (List Oci.Mount × Str) :=
  if L.isEmpty then .ok (ms, rootfs)
  else match loopUnfixed hostProp { mounts := ms, rootfs := rootfs, prop := [] } L with
    | .ok st => .ok (sortMounts st.mounts, st.rootfs)
    | .error e => .error e

end Mounts

/-- `Generator.AdjustMounts` (repaired). -/
def adjustMounts (ext : Externals) (s : Spec) (L : List Api.Mount) : Except GenError Spec :=
  match Mounts.apply ext.hostPropagation s.mounts s.rootfsPropagation L with
  | .ok r => .ok { s with mounts := r.1, rootfsPropagation := r.2 }
  | .error e => .error e

/-- `Generator.AdjustMounts` at the original snapshot (before the repair). -/
def adjustMountsUnfixed (ext : Externals) (s : Spec) (L : List Api.Mount) : Except GenError Spec :=
  match Mounts.applyUnfixed ext.hostPropagation s.mounts s.rootfsPropagation L with
  | .ok r => .ok { s with mounts := r.1, rootfsPropagation := r.2 }
  | .error e => .error e

/-! ## `Generator.Adjust` -/

/-- `Generator.Adjust`, repaired code: the families in the order of the Go function —
    annotations, env, args, hooks, CDI, devices, cgroups path, OOM score, resources, block-I/O
    class, RDT class, mounts, rlimits — stopping at the first error. -/
def adjust (ext : Externals) (s : Spec) (a : Adjustment) : Except GenError Spec := do
  let s := adjustAnnotations s a.annotations
  let s := adjustEnv s a.env
  let s := adjustArgs s a.args
  let s := adjustHooks s a.hooks
  let s ← injectCDI ext s a.cdiDevices
  let s := adjustDevices s a.linuxDevices
  let s := adjustCgroupsPath s a.cgroupsPath
  let s := adjustOomScoreAdj s a.oomScoreAdj
  let s := adjustResources s a.resources
  let s ← adjustBlockIOClass ext s a.blockioClass
  let s ← adjustRdtClass ext s a.rdtClass
  let s ← adjustMounts ext s a.mounts
  pure (adjustRlimits s a.rlimits)

/-- `Generator.Adjust` with every Go map iteration made explicit: `π1`, `π2` are the orders in
    which the removal loop and the set loop of `AdjustAnnotations` see the annotation map, `σ`
    the order in which `AdjustResources` sees the unified map (all other inputs are slices).
    `adjust ext s a` is the instance `π1 = π2 = a.annotations`, `σ =` the unified list as given
    (`C13_adjust_is_adjustOrders`, `Props/C13.lean`). -/
def adjustOrders (ext : Externals) (s : Spec) (a : Adjustment) (π1 π2 σ : List (Str × Str)) :
    Except GenError Spec := do
  let s := { s with annotations := Annotations.applyOrders s.annotations π1 π2 }
  let s := adjustEnv s a.env
  let s := adjustArgs s a.args
  let s := adjustHooks s a.hooks
  let s ← injectCDI ext s a.cdiDevices
  let s := adjustDevices s a.linuxDevices
  let s := adjustCgroupsPath s a.cgroupsPath
  let s := adjustOomScoreAdj s a.oomScoreAdj
  let s := adjustResources s (match a.resources with | some r => some { r with unified := σ } | none => none)
  let s ← adjustBlockIOClass ext s a.blockioClass
  let s ← adjustRdtClass ext s a.rdtClass
  let s ← adjustMounts ext s a.mounts
  pure (adjustRlimits s a.rlimits)

/-- `Generator.Adjust` before any of the repairs (annotations iterated in the order given). -/
def adjustUnfixed (ext : Externals) (s : Spec) (a : Adjustment) : Except GenError Spec := do
  let s := adjustAnnotationsUnfixed s a.annotations
  let s := adjustEnvUnfixed s a.env
  let s := adjustArgsUnfixed s a.args
  let s := adjustHooks s a.hooks
  let s ← injectCDI ext s a.cdiDevices
  let s := adjustDevicesUnfixed s a.linuxDevices
  let s := adjustCgroupsPath s a.cgroupsPath
  let s := adjustOomScoreAdj s a.oomScoreAdj
  let s := adjustResources s a.resources
  let s ← adjustBlockIOClass ext s a.blockioClass
  let s ← adjustRdtClass ext s a.rdtClass
  let s ← adjustMountsUnfixed ext s a.mounts
  pure (adjustRlimits s a.rlimits)

/-- `Generator.Adjust` as it stood after commits 1f50159 and ad4e689 but before 6eaf34c:
    annotations and args repaired, list families not. -/
def adjustListsUnfixed (ext : Externals) (s : Spec) (a : Adjustment) : Except GenError Spec := do
  let s := adjustAnnotations s a.annotations
  let s := adjustEnvUnfixed s a.env
  let s := adjustArgs s a.args
  let s := adjustHooks s a.hooks
  let s ← injectCDI ext s a.cdiDevices
  let s := adjustDevicesUnfixed s a.linuxDevices
  let s := adjustCgroupsPath s a.cgroupsPath
  let s := adjustOomScoreAdj s a.oomScoreAdj
  let s := adjustResources s a.resources
  let s ← adjustBlockIOClass ext s a.blockioClass
  let s ← adjustRdtClass ext s a.rdtClass
  let s ← adjustMountsUnfixed ext s a.mounts
  pure (adjustRlimits s a.rlimits)

end Nri.Generate
