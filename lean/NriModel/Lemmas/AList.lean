/-
Association lists for any key and value type: `lookup` against membership, what `insert` does to
the list and to its keys, folds of `insert`. Keys are written `m.map (·.1)`, the form the models'
statements use; `AList.keys m` and `AList.WF m` unfold to it. Ahead of them, three facts about a
list `l` with `(l.map f).Nodup`, for any `f`.
-/
import NriModel.Basic

/-- no repetition among the `g (f x)` means none among the `f x`: keys under a constructor -/
theorem Nri.nodup_map_of_comp {α β γ : Type} (f : α → β) (g : β → γ)
    (l : List α) (h : (l.map fun x => g (f x)).Nodup) : (l.map f).Nodup := by
  rw [List.Nodup, List.pairwise_map] at h ⊢
  exact h.imp fun hne e => hne (congrArg g e)

theorem Nri.nodup_map_inj {α β : Type} (f : α → β) (l : List α) (h : (l.map f).Nodup) :
    ∀ a ∈ l, ∀ b ∈ l, f a = f b → a = b := by
  have hp : l.Pairwise (fun a b => f a ≠ f b) := List.pairwise_map.1 h
  intro a ha b hb
  exact List.Pairwise.forall_of_forall_of_flip (R := fun a b => f a = f b → a = b) (fun _ _ _ => rfl)
    (hp.imp fun hne e => absurd e hne) (hp.imp fun hne e => absurd e.symm hne) ha hb

/-- where the images under `f` are distinct, what is left when `a` is erased has other images -/
theorem Nri.ne_of_mem_erase_of_nodup_map {α β : Type} [BEq α] [LawfulBEq α] {f : α → β} {l : List α}
    {a x : α} (hn : (l.map f).Nodup) (hm : a ∈ l) (hx : x ∈ l.erase a) : f x ≠ f a := by
  obtain ⟨l₁, l₂, -, rfl, he⟩ := List.exists_erase_eq hm
  rw [List.map_append, List.map_cons, List.nodup_append, List.nodup_cons] at hn
  rcases List.mem_append.1 (he ▸ hx) with h | h
  · exact hn.2.2 _ (List.mem_map_of_mem h) _ List.mem_cons_self
  · exact fun hxa => hn.2.1.1 (hxa ▸ List.mem_map_of_mem h)

namespace Nri.AList
variable {κ ν : Type} [DecidableEq κ]

theorem lookup_of_not_mem {m : AList κ ν} {k : κ} (h : k ∉ m.map (·.1)) : lookup m k = none := by
  induction m with
  | nil => rfl
  | cons e rest ih =>
    simp only [List.map_cons, List.mem_cons, not_or] at h
    simp [lookup, Ne.symm h.1, ih h.2]

theorem mem_of_lookup {m : AList κ ν} {k : κ} {v : ν} (h : lookup m k = some v) : (k, v) ∈ m := by
  induction m with
  | nil => cases h
  | cons e rest ih =>
    simp only [lookup] at h
    split at h
    · rename_i hk
      cases h
      exact hk ▸ List.mem_cons_self
    · exact List.mem_cons_of_mem _ (ih h)

theorem lookup_of_mem {m : AList κ ν} (hnd : (m.map (·.1)).Nodup) {k : κ} {v : ν} (h : (k, v) ∈ m) :
    lookup m k = some v := by
  induction m with
  | nil => cases h
  | cons e rest ih =>
    obtain ⟨hk, hnd⟩ := List.nodup_cons.mp hnd
    rcases List.mem_cons.mp h with rfl | h
    · simp [lookup]
    · have hne : e.1 ≠ k := fun he => hk (List.mem_map.mpr ⟨_, h, he.symm⟩)
      simp [lookup, hne, ih hnd h]

theorem lookup_eq_some_iff {m : AList κ ν} (hnd : (m.map (·.1)).Nodup) {k : κ} {v : ν} :
    lookup m k = some v ↔ (k, v) ∈ m :=
  ⟨mem_of_lookup, lookup_of_mem hnd⟩

theorem lookup_perm {l l' : AList κ ν} (hp : l'.Perm l) (hnd : (l.map (·.1)).Nodup) (k : κ) :
    lookup l' k = lookup l k :=
  Option.ext fun v => by
    rw [lookup_eq_some_iff ((hp.map _).nodup_iff.mpr hnd), lookup_eq_some_iff hnd]
    exact hp.mem_iff

theorem lookup_erase_some {m : AList κ ν} {k k' : κ} {v : ν}
    (h : lookup (erase m k) k' = some v) : lookup m k' = some v := by
  by_cases hk : k = k'
  · subst hk; rw [lookup_erase_self] at h; cases h
  · rwa [lookup_erase_other _ _ _ hk] at h

theorem insert_of_not_mem {m : AList κ ν} {k : κ} (v : ν) (h : k ∉ m.map (·.1)) :
    insert m k v = m ++ [(k, v)] := by
  induction m with
  | nil => rfl
  | cons e rest ih =>
    simp only [List.map_cons, List.mem_cons, not_or] at h
    simp [insert, Ne.symm h.1, ih h.2]

theorem mem_insert {m : AList κ ν} {k : κ} {v : ν} {x : κ × ν} (h : x ∈ insert m k v) :
    x = (k, v) ∨ x ∈ m := by
  fun_induction insert m k v with
  | case1 => exact .inl (List.mem_singleton.mp h)
  | case2 v' rest =>
    exact (List.mem_cons.mp h).imp_right (List.mem_cons_of_mem _)
  | case3 k' v' rest hk ih =>
    rcases List.mem_cons.mp h with h | h
    · exact .inr (h ▸ List.mem_cons_self)
    · exact (ih h).imp_right (List.mem_cons_of_mem _)

theorem keys_insert (m : AList κ ν) (k : κ) (v : ν) :
    (insert m k v).map (·.1) = if k ∈ m.map (·.1) then m.map (·.1) else m.map (·.1) ++ [k] := by
  induction m with
  | nil => rfl
  | cons e rest ih =>
    obtain ⟨k', v'⟩ := e
    by_cases h : k' = k
    · subst h; simp [insert]
    · have hne : ¬ k = k' := fun x => h x.symm
      simp only [insert, h, ↓reduceIte, List.map_cons, ih, List.mem_cons, hne, false_or]
      split <;> rfl

theorem keys_insert_nodup {m : AList κ ν} (k : κ) (v : ν) (h : (m.map (·.1)).Nodup) :
    ((insert m k v).map (·.1)).Nodup := by
  rw [keys_insert]
  split
  · exact h
  · rename_i hm
    exact List.nodup_append.mpr ⟨h, by simp, fun a ha b hb hab =>
      hm (List.mem_singleton.mp hb ▸ hab ▸ ha)⟩

/-- Go's copy loop `for k, v := range m { acc[k] = v }` over keys that are new and distinct. -/
theorem foldl_insert (m acc : AList κ ν) (hnd : ((acc ++ m).map (·.1)).Nodup) :
    m.foldl (fun a kv => insert a kv.1 kv.2) acc = acc ++ m := by
  induction m generalizing acc with
  | nil => simp
  | cons e rest ih =>
    have hk : e.1 ∉ acc.map (·.1) := fun hh => by
      simp only [List.map_append, List.map_cons] at hnd
      exact (List.nodup_append.mp hnd).2.2 _ hh _ List.mem_cons_self rfl
    rw [List.foldl_cons, insert_of_not_mem e.2 hk, ih]
    · simp
    · simpa using hnd

theorem lookup_foldl_insert_of_not_mem (l m : AList κ ν) {k : κ} (h : k ∉ l.map (·.1)) :
    lookup (l.foldl (fun m kv => insert m kv.1 kv.2) m) k = lookup m k := by
  induction l generalizing m with
  | nil => rfl
  | cons x rest ih =>
    simp only [List.map_cons, List.mem_cons, not_or] at h
    rw [List.foldl_cons, ih _ h.2, lookup_insert_other _ _ _ _ (Ne.symm h.1)]

theorem lookup_foldl_insert_of_mem (l m : AList κ ν) {k : κ} {v : ν}
    (hnd : (l.map (·.1)).Nodup) (h : (k, v) ∈ l) :
    lookup (l.foldl (fun m kv => insert m kv.1 kv.2) m) k = some v := by
  induction l generalizing m with
  | nil => cases h
  | cons x rest ih =>
    obtain ⟨hk, hnd⟩ := List.nodup_cons.mp hnd
    rw [List.foldl_cons]
    rcases List.mem_cons.mp h with rfl | h
    · rw [lookup_foldl_insert_of_not_mem _ _ hk, lookup_insert_self]
    · exact ih _ hnd h

end Nri.AList
