/-
From one message to a plugin's response and to chains: target and ignore flag of the update a program
builds; `Ledger.setsOn` / `removesOn` of the response, read off the programs; acceptance by the abstract
ledger of chains of adjustment programs naming pairwise distinct items; the list-order lemmas behind
"Remove after Add of the same key". `replyHolds_run` and `released_conflict_is_own` are about the
collector alone (any chain, any adjustment); the program-level theorems on released items are their
only users.
-/
import NriModel.Lemmas.BuilderClears
import NriModel.Lemmas.BuilderVals

namespace Nri.Builder
open Nri Nri.NApi Nri.Result Nri.Ledger Nri.UpdateWalk

theorem runU_target (prog : List UOp) : (runU prog).containerId = progTarget prog :=
  List.foldl_rel (r := fun (u : Update) acc => u.containerId = acc) rfl fun op _ u _ h => by subst h; cases op <;> rfl

theorem runU_ignore (prog : List UOp) : (runU prog).ignoreFailure = progIgnore prog := by
  have h : ∀ u : Update, (prog.foldl stepU u).ignoreFailure = (u.ignoreFailure || progIgnore prog) := by
    induction prog with
    | nil => intro u; simp [progIgnore]
    | cons op rest ih =>
      intro u
      rw [List.foldl_cons, ih]
      cases op <;> simp [stepU, progIgnore]
  exact h _

theorem mem_progSetsOn (strict : Bool) (k : Kind) (pp : PluginProg) (c : Cid) (it : Item) :
    it ∈ setsOn strict k pp.response c ↔ it ∈ progSetsOn strict k pp c := by
  unfold setsOn progSetsOn PluginProg.response
  simp only [List.mem_append]
  refine or_congr ?_ ?_
  -- the adjustment's summand: read only for a creation request with an adjustment program
  · cases k <;> cases pp.adjust <;> try exact Iff.rfl
    simp only [Option.map, setsAdj]
    split
    · exact (runA_sets_perm _).mem_iff
    · exact Iff.rfl
  -- the updates' summand: the filter reads target and ignore flag, which the program tells
  · simp only [List.mem_flatMap, List.mem_filter, List.mem_map]
    constructor
    · rintro ⟨_, ⟨⟨u, hu, rfl⟩, hf⟩, hm⟩
      exact ⟨u, ⟨hu, by rwa [runU_target, runU_ignore] at hf⟩, (runU_sets_perm u).mem_iff.1 hm⟩
    · rintro ⟨u, ⟨hu, hf⟩, hm⟩
      exact ⟨_, ⟨⟨u, hu, rfl⟩, by rwa [runU_target, runU_ignore]⟩, (runU_sets_perm u).mem_iff.2 hm⟩

theorem mem_progRemovesOn (k : Kind) (pp : PluginProg) (c : Cid) (it : Item) :
    it ∈ removesOn k pp.response c ↔ it ∈ progRemovesOn k pp c := by
  rw [mem_removesOn_iff]
  unfold progRemovesOn PluginProg.response
  cases k with
  | create id =>
    cases hpa : pp.adjust with
    | none => simp
    | some prog =>
      by_cases hid : id = c
      · subst hid; simp [runA_clears_mem]
      · simp [hid]
  | update id => simp
  | stop => simp

theorem replyHolds_run {rs : List (Plugin × Option Response)} {st st' : State} (rh : ReplyHolds st)
    (h : run Quirks.fixed st rs = .ok st') : ReplyHolds st' := by
  induction rs generalizing st with
  | nil => cases h; exact rh
  | cons x rest ih =>
    obtain ⟨p, _ | r⟩ := x
    · exact ih rh h
    · rw [run_cons_some] at h
      obtain ⟨st1, h1, h2⟩ := (bind_eq_ok _ _ _).1 h
      exact ih (replyHolds_apply st st1 p r rh h1) h2

/-- a conflict raised by an adjustment on an item it marks for removal can only be the
    plugin's own second mention of that item -/
theorem released_conflict_is_own {st : State} (rh : ReplyHolds st) {p : Plugin} {a : Adjustment}
    {c : Cid} {it : Item} {p' q : Plugin}
    (herr : adjust Quirks.fixed st p (some a) = .error (.conflict c it p' q))
    (hrel : it ∈ removesAdj a) : q = p ∧ 2 ≤ (adjustSets a).count it := by
  unfold adjust at herr
  simp only [] at herr
  cases hc : claimAll (cidOf st.kind) p (clearAll st.owners (cidOf st.kind) (adjustClears Quirks.fixed st a)) (adjustSets a) with
  | ok o => rw [hc] at herr; cases herr
  | error e =>
    rw [hc] at herr
    cases herr
    obtain ⟨it', q', _, he, hw⟩ := claimAll_error_inv _ _ _ _ _ hc
    cases he
    rcases hw with h1 | h2
    · exfalso
      have h0 := owner_clearAll_some _ _ _ _ _ _ h1
      have hcl := clears_effective st a rh it q h0 hrel
      rw [owner_clearAll_mem _ _ _ _ hcl] at h1
      cases h1
    · exact h2

/-- the chain in which plugin `p` answers a creation request with the adjustment `prog` builds -/
def adjChain (progs : List (Plugin × List AOp)) : List (Plugin × Response) :=
  progs.map fun x => (x.1, { adjust := some (runA x.2) })

theorem absRun_adjChain (id : Cid) (progs : List (Plugin × List AOp)) (owned : List (Cid × Item))
    (hown : ∀ c it, (c, it) ∈ owned → ∀ x ∈ progs, it ∉ progSets x.2)
    (hnd : (progs.flatMap fun x => progSets x.2).Nodup) :
    ∃ owned', absRun (.create id) owned (adjChain progs) = some owned' := by
  induction progs generalizing owned with
  | nil => exact ⟨owned, rfl⟩
  | cons x rest ih =>
    obtain ⟨p, prog⟩ := x
    simp only [List.flatMap_cons] at hnd
    obtain ⟨hnd1, hnd2, hdisj⟩ := List.nodup_append.1 hnd
    have hperm := runA_sets_perm prog
    have hsets : allSets (.create id) { adjust := some (runA prog) } = (adjustSets (runA prog)).map fun it => (id, it) := by
      rw [allSets_create id _ (runA prog) rfl]; simp
    simp only [adjChain, List.map_cons, absRun]
    have hstep : ∃ owned1, absStep (.create id) owned { adjust := some (runA prog) } = some owned1 ∧
        ∀ c it, (c, it) ∈ owned1 → (c, it) ∈ owned ∨ it ∈ progSets prog := by
      unfold absStep
      have hself : selfUpdates (.create id) { adjust := some (runA prog) } = false := by simp [selfUpdates]
      simp only [hself, Bool.false_eq_true, ↓reduceIte, hsets]
      have hn : ((adjustSets (runA prog)).map fun it => (id, it)).Nodup := by
        exact List.pairwise_map.2 ((hperm.nodup_iff.2 hnd1).imp fun hne heq => hne (by cases heq; rfl))
      simp only [hn, decide_true, Bool.not_true, Bool.false_eq_true, ↓reduceIte]
      have hany : ((adjustSets (runA prog)).map fun it => (id, it)).any (fun x =>
          (owned.filter fun x => !(allRemoves (.create id) { adjust := some (runA prog) }).contains x).contains x) = false := by
        rw [List.any_eq_false]
        intro y hy hc
        obtain ⟨it, hit, rfl⟩ := List.mem_map.1 hy
        exact hown id it (List.mem_filter.1 (List.contains_iff_mem.1 hc)).1 (p, prog) List.mem_cons_self
          (hperm.mem_iff.1 hit)
      simp only [hany, Bool.false_eq_true, ↓reduceIte]
      refine ⟨_, rfl, ?_⟩
      intro c it hm
      rcases List.mem_append.1 hm with h | h
      · exact .inl (List.mem_filter.1 h).1
      · obtain ⟨it', hit', heq⟩ := List.mem_map.1 h
        cases heq
        exact .inr (hperm.mem_iff.1 hit')
    obtain ⟨owned1, hs, hsub⟩ := hstep
    rw [hs]
    apply ih owned1 _ hnd2
    intro c it hm y hy hin
    rcases hsub c it hm with h | h
    · exact hown c it h y (List.mem_cons_of_mem _ hy) hin
    · exact hdisj it h it (List.mem_flatMap.2 ⟨y, hy, hin⟩) rfl

theorem delKeys_append (l₁ l₂ : List Str) : delKeys (l₁ ++ l₂) = delKeys l₁ ++ delKeys l₂ :=
  List.filterMap_append

theorem filter_pair_swap {α : Type} (P : α → Bool) (l : List α) (x m : α) (h : P x = false ∨ P m = false) :
    (l ++ [x, m]).filter P = (l ++ [m, x]).filter P := by
  cases hx : P x <;> cases hm : P m <;> simp_all

theorem delKeys_map_swap {α : Type} (g : α → Str) (l : List α) (x m : α) (hx : (isMarked (g x)).2 = false) :
    delKeys ((l ++ [x, m]).map g) = delKeys ((l ++ [m, x]).map g) := by
  cases hgx : isMarked (g x) with
  | mk kx bx =>
    obtain rfl : bx = false := by simpa [hgx] using hx
    cases hm : isMarked (g m) with
    | mk km bm => cases bm <;> simp [delKeys, List.filterMap_append, hgx, hm]

theorem delKeys_pair_swap (k : Str) (hk : unmarked k = true) :
    delKeys [k, markForRemoval k] = delKeys [markForRemoval k, k] :=
  delKeys_map_swap id [] k _ (by simpa [unmarked] using hk)

/-- Of two adjacent entries of the environment list, an unmarked one and a removal marker, the order
    is invisible to `result.adjust`: it reads the list only through the marked keys (`delKeys`), the
    unmarked entries and the lone markers, and each of these is a filter that drops one of the two.
    Likewise for mounts and devices. -/
theorem adjust_env_swap (q : Quirks) (st : State) (p : Plugin) (a : Adjustment) (x m : KeyValue)
    (hx : (isMarked x.key).2 = false) (hm : (isMarked m.key).2 = true) :
    adjust q st p (some { a with env := a.env ++ [x, m] }) = adjust q st p (some { a with env := a.env ++ [m, x] }) := by
  have hD := delKeys_map_swap KeyValue.key a.env x m hx
  have hF := filter_pair_swap (fun e => !(isMarked e.key).2) a.env x m (.inr (by simp [hm]))
  simp only [adjust, adjustSets, adjustClears, adjustData, envSets, envClears, envData, hD, hF]
  rw [filter_pair_swap _ a.env x m (.inl (by simp [hx]))]

theorem adjust_mount_swap (q : Quirks) (st : State) (p : Plugin) (a : Adjustment) (x m : Mount)
    (hx : (isMarked x.destination).2 = false) (hm : (isMarked m.destination).2 = true) :
    adjust q st p (some { a with mounts := a.mounts ++ [x, m] }) =
    adjust q st p (some { a with mounts := a.mounts ++ [m, x] }) := by
  have hD := delKeys_map_swap Mount.destination a.mounts x m hx
  have hF := filter_pair_swap (fun e => !(isMarked e.destination).2) a.mounts x m (.inr (by simp [hm]))
  simp only [adjust, adjustSets, adjustClears, adjustData, mountSets, mountClears, mountData, hD, hF]
  rw [filter_pair_swap _ a.mounts x m (.inl (by simp [hx]))]

theorem adjust_device_swap (q : Quirks) (st : State) (p : Plugin) (a : Adjustment) (x m : Device)
    (hx : (isMarked x.path).2 = false) (hm : (isMarked m.path).2 = true) :
    adjust q st p (some { a with hasLinux := true, devices := a.devices ++ [x, m] }) =
    adjust q st p (some { a with hasLinux := true, devices := a.devices ++ [m, x] }) := by
  have hD := delKeys_map_swap Device.path a.devices x m hx
  have hF := filter_pair_swap (fun e => !(isMarked e.path).2) a.devices x m (.inr (by simp [hm]))
  simp only [adjust, adjustSets, adjustClears, adjustData, deviceSets, deviceClears, deviceData, hD, hF]
  rw [filter_pair_swap _ a.devices x m (.inl (by simp [hx]))]

end Nri.Builder
