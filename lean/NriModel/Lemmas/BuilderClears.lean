/-
The items the message built by a program marks for
removal (`Ledger.removesAdj`) are, as a set, the items the syntactic reading `progClears` lists.
Membership, not multiplicity: releasing a claim is idempotent (`Result.clearAll`), so how often
and in which order a program names a key for removal has no effect on the ledger.
Same method as BuilderSets: `removesAdj a` is the concatenation of five families (`remFams a`),
one call replaces one of them, `flatten_set` lifts the family's change; only a `drop` (the command
line losing its marker to a later `SetArgs`) needs the other families not to contain the item.
-/
import NriModel.Lemmas.BuilderSets

namespace Nri.Builder
open Nri Nri.NApi Nri.Result Nri.Ledger

def MemRel (e : Eff) (old new : List Item) : Prop := ∀ it, it ∈ new ↔ it ∈ applyEff old e

theorem mem_applyEff_congr (e : Eff) {l₁ l₂ : List Item} (h : ∀ it, it ∈ l₁ ↔ it ∈ l₂) (it : Item) :
    it ∈ applyEff l₁ e ↔ it ∈ applyEff l₂ e := by
  rw [mem_applyEff, mem_applyEff]
  cases e <;> simp only [h]

theorem mlift_mid (e : Eff) (X Y old new : List Item)
    (hX : ∀ it, e.item? = some it → it ∉ X) (hY : ∀ it, e.item? = some it → it ∉ Y)
    (h : MemRel e old new) : MemRel e (X ++ old ++ Y) (X ++ new ++ Y) := by
  intro it
  have h := h it
  rw [mem_applyEff] at h ⊢
  simp only [List.mem_append, h]
  cases e with
  | append x v => simp only [or_comm, or_left_comm]
  | put x v => simp only [or_comm, or_left_comm]
  | nop => exact Iff.rfl
  | drop x =>
    by_cases heq : it = x
    · subst heq; simp [hX it rfl, hY it rfl]
    · simp [heq]

theorem flatten_set_mem {e : Eff} {Fs Fs' : List (List Item)} {tag : Item → Nat}
    (ht : ∀ j l, Fs[j]? = some l → ∀ x ∈ l, tag x = j) (i : Nat) {old new : List Item}
    (h : MemRel e old new) (he : ∀ it, e.item? = some it → tag it = i)
    (hi : Fs[i]? = some old := by rfl) (hset : Fs' = Fs.set i new := by rfl) : MemRel e Fs.flatten Fs'.flatten :=
  hset ▸ flatten_set (mlift_mid e) ht hi h he

/-- the command line carries the replace marker -/
def argsMark : List Str → List Item
  | [] :: _ => [.args]
  | _ => []

theorem argsMark_cases (l : List Str) : argsMark l = [Item.args] ∨ argsMark l = [] := by
  unfold argsMark; split <;> simp

def remFams (a : Adjustment) : List (List Item) :=
  [(delKeys (a.annotations.map (·.1))).map .annotation, (delKeys (a.mounts.map (·.destination))).map .mount,
   (delKeys (a.env.map (·.key))).map .env, argsMark a.args, (delKeys (a.devices.map (·.path))).map .device]

theorem removesAdj_fams (a : Adjustment) (wf : AdjWF a) : removesAdj a = (remFams a).flatten := by
  have hdev : (if a.hasLinux then (markedKeys (a.devices.map (·.path))).map Item.device else []) =
      (delKeys (a.devices.map (·.path))).map Item.device := by
    cases hl : a.hasLinux with
    | true => simp [markedKeys]
    | false => obtain ⟨h1, _⟩ := wf hl; simp [h1, delKeys]
  unfold removesAdj
  rw [hdev]
  -- the `match` on the command line is `argsMark`; the rest is the same concatenation, reassociated
  show _ ++ _ ++ _ ++ argsMark a.args ++ _ = _
  simp only [remFams, markedKeys, List.flatten_cons, List.flatten_nil, List.append_assoc, List.append_nil]

theorem remFams_famOf (a : Adjustment) (j : Nat) (l : List Item) (h : (remFams a)[j]? = some l) (x : Item)
    (hx : x ∈ l) : famOf x = j := by
  rcases j with _|_|_|_|_|_ <;> cases h
  · obtain ⟨k, _, rfl⟩ := List.mem_map.1 hx; rfl
  · obtain ⟨k, _, rfl⟩ := List.mem_map.1 hx; rfl
  · obtain ⟨k, _, rfl⟩ := List.mem_map.1 hx; rfl
  · rcases argsMark_cases a.args with h | h <;> rw [h] at hx <;> cases hx
    · rfl
    · contradiction
  · obtain ⟨k, _, rfl⟩ := List.mem_map.1 hx; rfl

/-- one more key `k` in a list of keys: if marked, one more removal mark -/
theorem delKeys_add_rel (f : Str → Item) (keys keys' : List Str) (k : Str)
    (hk : ∀ x, x ∈ keys' ↔ x ∈ keys ∨ x = k) :
    MemRel (if unmarked k then .nop else .put (f (isMarked k).1) .unit)
      ((delKeys keys).map f) ((delKeys keys').map f) := by
  intro it
  rw [mem_applyEff]
  cases hb : isMarked k with
  | mk k0 b => cases b <;> simp [unmarked, hb, mem_delKeys_iff, hk, or_and_right, exists_or, eq_comm]

theorem mem_map_snoc {α : Type} (g : α → Str) (l : List α) (y : α) (x : Str) :
    x ∈ (l ++ [y]).map g ↔ x ∈ l.map g ∨ x = g y := by
  simp

theorem mem_keys_insert (m : AList Str Str) (k v x : Str) :
    x ∈ (AList.insert m k v).map (·.1) ↔ x ∈ m.map (·.1) ∨ x = k := by
  rw [AList.keys_insert]
  split
  · exact ⟨.inl, fun h => h.elim id fun h => h ▸ ‹_›⟩
  · simp

theorem argsMark_set (old args : List Str) :
    MemRel (match args with | [] :: _ => .put .args .unit | _ => .drop .args) (argsMark old) (argsMark args) := by
  intro it
  rw [mem_applyEff]
  rcases argsMark_cases old with ho | ho <;> rw [ho]
  all_goals
    rcases args with _ | ⟨x, t⟩
    · simp [argsMark]
    · rcases x with _ | ⟨c, cs⟩ <;> simp [argsMark]

/-! `isMarked (markForRemoval k)` evaluates to `(k, true)`: a `Remove…` helper is the case of a marked key. -/

theorem stepA_clears (a : Adjustment) (op : AOp) :
    MemRel (clearEff op) (remFams a).flatten (remFams (stepA a op)).flatten := by
  have ht := remFams_famOf a
  cases op
  case addAnnotation k v =>
    exact flatten_set_mem ht 0 (delKeys_add_rel .annotation _ _ k (mem_keys_insert _ k v))
      (item?_ite (item?_none rfl) (item?_put rfl))
  case removeAnnotation k =>
    exact flatten_set_mem ht 0 (delKeys_add_rel .annotation _ _ _ (mem_keys_insert _ (markForRemoval k) []))
      (item?_put rfl)
  case addMount m =>
    exact flatten_set_mem ht 1 (delKeys_add_rel .mount _ _ _ (mem_map_snoc Mount.destination _ m))
      (item?_ite (item?_none rfl) (item?_put rfl))
  case removeMount p =>
    exact flatten_set_mem ht 1
      (delKeys_add_rel .mount _ _ _ (mem_map_snoc Mount.destination _ { destination := markForRemoval p }))
      (item?_put rfl)
  case addEnv k v =>
    exact flatten_set_mem ht 2 (delKeys_add_rel .env _ _ _ (mem_map_snoc KeyValue.key _ { key := k, value := v }))
      (item?_ite (item?_none rfl) (item?_put rfl))
  case removeEnv k =>
    exact flatten_set_mem ht 2 (delKeys_add_rel .env _ _ _ (mem_map_snoc KeyValue.key _ { key := markForRemoval k }))
      (item?_put rfl)
  case setArgs args =>
    exact flatten_set_mem ht 3 (argsMark_set _ args) (by rcases args with _ | ⟨_ | _, _⟩ <;> rintro _ ⟨⟩ <;> rfl)
  case updateArgs args => exact flatten_set_mem ht 3 (argsMark_set _ ([] :: args)) (item?_put rfl)
  case addDevice d =>
    exact flatten_set_mem ht 4 (delKeys_add_rel .device _ _ _ (mem_map_snoc Device.path _ d))
      (item?_ite (item?_none rfl) (item?_put rfl))
  case removeDevice p =>
    exact flatten_set_mem ht 4 (delKeys_add_rel .device _ _ _ (mem_map_snoc Device.path _ { path := markForRemoval p }))
      (item?_put rfl)
  -- the other helpers touch no family of removal marks
  all_goals exact fun _ => Iff.rfl

theorem runA_clears_mem (prog : List AOp) (it : Item) : it ∈ removesAdj (runA prog) ↔ it ∈ progClears prog := by
  rw [removesAdj_fams _ (runA_sets prog).1]
  exact List.foldl_rel (r := fun a acc => ∀ it, it ∈ (remFams a).flatten ↔ it ∈ acc)
    (by simp [remFams, delKeys, argsMark])
    (fun op _ a _ h it => (stepA_clears a op it).trans (mem_applyEff_congr _ h it)) it

end Nri.Builder
