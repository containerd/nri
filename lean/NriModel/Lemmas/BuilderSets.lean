/-
The items the message built by a program sets are, up to order, the items the syntactic reading
`progSets` lists — multiplicities included.

`adjustSets a` is the concatenation of a list of families (`fams a`; its resources family is again
the concatenation of `resFams r`), and the constructor of an item tells which family it can occur in
(`famOf`, `resTag`). One helper call replaces one family, whose list changes as the call's effect
says, up to a permutation; `flatten_set` carries that through the concatenation. For put and drop
this needs "an item belongs to exactly one family".
-/
import NriModel.Builder
import NriModel.Lemmas.ResultAbs
import NriModel.Lemmas.AList

namespace Nri.Builder
open Nri Nri.NApi Nri.Result Nri.Ledger

def Eff.item? : Eff → Option Item
  | .append _ _ => none      -- an append needs no side condition
  | .put it _ => some it
  | .drop it => some it
  | .nop => none

theorem applyEff_perm (e : Eff) {l₁ l₂ : List Item} (h : l₁.Perm l₂) : (applyEff l₁ e).Perm (applyEff l₂ e) := by
  cases e with
  | append it v => exact h.append_right _
  | put it v =>
    simp only [applyEff, h.mem_iff]
    split
    · exact h
    · exact h.append_right _
  | drop it => exact h.filter _
  | nop => exact h

theorem mem_applyEff (e : Eff) (l : List Item) (x : Item) :
    x ∈ applyEff l e ↔
      match e with
      | .append it _ => x ∈ l ∨ x = it
      | .put it _ => x ∈ l ∨ x = it
      | .drop it => x ∈ l ∧ x ≠ it
      | .nop => x ∈ l := by
  cases e with
  | put it v =>
    by_cases hm : it ∈ l <;> simp [applyEff, hm]
    rintro rfl; exact hm
  | _ => simp [applyEff]

theorem lift_mid (e : Eff) (X Y old new : List Item)
    (hX : ∀ it, e.item? = some it → it ∉ X) (hY : ∀ it, e.item? = some it → it ∉ Y)
    (h : new.Perm (applyEff old e)) : (X ++ new ++ Y).Perm (applyEff (X ++ old ++ Y) e) := by
  refine ((h.append_left X).append_right Y).trans ?_
  have snoc : ∀ it, (X ++ (old ++ [it]) ++ Y).Perm (X ++ old ++ Y ++ [it]) := fun it => by
    simp only [List.append_assoc]
    exact .append_left X (.append_left old List.perm_append_comm)
  cases e with
  | append it v => exact snoc it
  | put it v =>
    simp only [applyEff, List.mem_append, hX it rfl, hY it rfl, false_or, or_false]
    split
    · exact .refl _
    · exact snoc it
  | drop it =>
    have keep : ∀ Z : List Item, it ∉ Z → Z.filter (· ≠ it) = Z := fun Z hz =>
      List.filter_eq_self.2 fun a ha => by simpa using fun heq : a = it => hz (heq ▸ ha)
    simp only [applyEff, List.filter_append, keep X (hX it rfl), keep Y (hY it rfl)]
    exact .refl _
  | nop => exact .refl _

/-- A relation between the old and the new list of one family that survives concatenation on
    both sides with lists free of the items `S` survives the replacement of that family in a
    concatenation of families, provided `tag` tells the families apart and sends `S` to this one. -/
theorem flatten_set {R : List Item → List Item → Prop} {S : Item → Prop}
    (mid : ∀ X Y old new, (∀ it, S it → it ∉ X) → (∀ it, S it → it ∉ Y) → R old new →
      R (X ++ old ++ Y) (X ++ new ++ Y))
    {Fs : List (List Item)} {tag : Item → Nat} (ht : ∀ j l, Fs[j]? = some l → ∀ x ∈ l, tag x = j) {i : Nat}
    {old new : List Item} (hi : Fs[i]? = some old) (h : R old new) (hS : ∀ it, S it → tag it = i) :
    R Fs.flatten (Fs.set i new).flatten := by
  induction Fs generalizing tag i with
  | nil => cases hi
  | cons l ls ih =>
    cases i with
    | zero =>
      cases hi
      refine mid [] _ _ _ (fun _ _ => List.not_mem_nil) ?_ h
      intro it hs hm
      obtain ⟨l', hl', hx⟩ := List.mem_flatten.1 hm
      obtain ⟨j, hj⟩ := List.mem_iff_getElem?.1 hl'
      have := ht (j + 1) l' hj it hx
      rw [hS it hs] at this
      cases this
    | succ i =>
      -- the families of the tail are told apart by `tag · - 1`
      have := mid l [] _ _ ?_ (fun _ _ => List.not_mem_nil)
        (ih (tag := fun x => tag x - 1) (fun j l' hj x hx => by rw [ht (j + 1) l' hj x hx]; rfl) hi
          (fun it hs => by rw [hS it hs]; rfl))
      · simpa using this
      · intro it hs hm
        have := ht 0 l rfl it hm
        rw [hS it hs] at this
        cases this

/-- For a literal list of families `hi` and `hset` hold by evaluation, hence the defaults. -/
theorem flatten_set_perm {e : Eff} {Fs Fs' : List (List Item)} {tag : Item → Nat}
    (ht : ∀ j l, Fs[j]? = some l → ∀ x ∈ l, tag x = j) (i : Nat) {old new : List Item}
    (h : new.Perm (applyEff old e)) (he : ∀ it, e.item? = some it → tag it = i)
    (hi : Fs[i]? = some old := by rfl) (hset : Fs' = Fs.set i new := by rfl) :
    Fs'.flatten.Perm (applyEff Fs.flatten e) :=
  hset ▸ flatten_set (R := fun old new => new.Perm (applyEff old e)) (lift_mid e) ht hi h he

theorem item?_none {P : Item → Prop} {e : Eff} (h : e.item? = none) : ∀ it, e.item? = some it → P it :=
  fun _ h' => nomatch h.symm.trans h'

theorem item?_put {P : Item → Prop} {x : Item} {v : Val} (h : P x) : ∀ it, (Eff.put x v).item? = some it → P it := by
  rintro _ ⟨⟩; exact h

theorem item?_drop {P : Item → Prop} {x : Item} (h : P x) : ∀ it, (Eff.drop x).item? = some it → P it := by
  rintro _ ⟨⟩; exact h

theorem item?_ite {P : Item → Prop} {c : Prop} [Decidable c] {e₁ e₂ : Eff} (h₁ : ∀ it, e₁.item? = some it → P it)
    (h₂ : ∀ it, e₂.item? = some it → P it) : ∀ it, (if c then e₁ else e₂).item? = some it → P it := by
  split <;> assumption

/-- one family per field of `resSets`; the memory and cpu sections read as allocated -/
def resFams (r : Resources) : List (List Item) :=
  let m := r.memory.getD {}
  let c := r.cpu.getD {}
  [if m.limit.isSome then [Item.memLimit] else [], if m.reservation.isSome then [Item.memReservation] else [],
   if m.swap.isSome then [Item.memSwap] else [], if m.kernel.isSome then [Item.memKernel] else [],
   if m.kernelTcp.isSome then [Item.memKernelTcp] else [], if m.swappiness.isSome then [Item.memSwappiness] else [],
   if m.disableOomKiller.isSome then [Item.memDisableOom] else [],
   if m.useHierarchy.isSome then [Item.memUseHierarchy] else [],
   if c.shares.isSome then [Item.cpuShares] else [], if c.quota.isSome then [Item.cpuQuota] else [],
   if c.period.isSome then [Item.cpuPeriod] else [], if c.realtimeRuntime.isSome then [Item.cpuRtRuntime] else [],
   if c.realtimePeriod.isSome then [Item.cpuRtPeriod] else [], if c.cpus = [] then [] else [Item.cpusetCpus],
   if c.mems = [] then [] else [Item.cpusetMems], r.hugepages.map fun l => Item.hugepage l.pageSize,
   r.unified.map fun x => Item.unified x.1, if r.blockioClass.isSome then [Item.blockio] else [],
   if r.rdtClass.isSome then [Item.rdt] else [], if r.pids.isSome then [Item.pids] else []]

def resTag : Item → Nat
  | .memLimit => 0 | .memReservation => 1 | .memSwap => 2 | .memKernel => 3 | .memKernelTcp => 4
  | .memSwappiness => 5 | .memDisableOom => 6 | .memUseHierarchy => 7 | .cpuShares => 8 | .cpuQuota => 9
  | .cpuPeriod => 10 | .cpuRtRuntime => 11 | .cpuRtPeriod => 12 | .cpusetCpus => 13 | .cpusetMems => 14
  | .hugepage _ => 15 | .unified _ => 16 | .blockio => 17 | .rdt => 18 | .pids => 19 | _ => 20

theorem resSets_flat (r : Resources) :
    resSets r = memSets (r.memory.getD {}) ++ cpuSets (r.cpu.getD {}) ++
      (r.hugepages.map fun l => Item.hugepage l.pageSize) ++ (r.unified.map fun x => Item.unified x.1) ++
      (if r.blockioClass.isSome then [Item.blockio] else []) ++ (if r.rdtClass.isSome then [Item.rdt] else []) ++
      (if r.pids.isSome then [Item.pids] else []) := by
  obtain ⟨_ | m, _ | c, _, _, _, _, _⟩ := r <;> rfl

theorem resSets_fams (r : Resources) : resSets r = (resFams r).flatten := by
  rw [resSets_flat]
  simp only [resFams, memSets, cpuSets, ite_not, List.flatten_cons, List.flatten_nil, List.append_assoc, List.append_nil]

theorem resFams_resTag (r : Resources) (j : Nat) (l : List Item) (h : (resFams r)[j]? = some l) (x : Item)
    (hx : x ∈ l) : resTag x = j := by
  rcases j with _|_|_|_|_|_|_|_|_|_|_|_|_|_|_|_|_|_|_|_|_ <;> cases h
  -- positions 15 and 16 (hugepage limits, unified keys) are `map`s: the second alternative; the
  -- other eighteen are `if … then [x] else []` (13 and 14 with the branches swapped): the first
  all_goals first
    | (split at hx <;> simp at hx; subst hx; rfl)
    | (obtain ⟨y, _, rfl⟩ := List.mem_map.1 hx; rfl)

section fam
variable (it : Item)

theorem not_res_annSets (m : AList Str Str) (h : it ∈ annSets m) : ∃ k, it = .annotation k := by
  simp only [annSets, List.mem_map] at h; obtain ⟨x, _, rfl⟩ := h; exact ⟨_, rfl⟩
theorem fam_mountSets (ms : List Mount) (h : it ∈ mountSets ms) : ∃ k, it = .mount k := by
  obtain ⟨x, _, rfl⟩ := List.mem_map.1 h; exact ⟨_, rfl⟩
theorem fam_envSets (es : List KeyValue) (h : it ∈ envSets es) : ∃ k, it = .env k := by
  obtain ⟨x, _, rfl⟩ := List.mem_map.1 h; exact ⟨_, rfl⟩
theorem fam_argsSets (args : List Str) (h : it ∈ argsSets args) : it = .args := by
  unfold argsSets at h; split at h <;> simp at h; exact h
theorem fam_deviceSets (ds : List Device) (h : it ∈ deviceSets ds) : ∃ k, it = .device k := by
  obtain ⟨x, _, rfl⟩ := List.mem_map.1 h; exact ⟨_, rfl⟩
theorem fam_cgroupsSets (p : Str) (h : it ∈ cgroupsSets p) : it = .cgroupsPath := by
  unfold cgroupsSets at h; split at h <;> simp at h; exact h
theorem fam_oomSets (v : Option Int) (h : it ∈ oomSets v) : it = .oomScoreAdj := by
  unfold oomSets at h; split at h <;> simp at h; exact h
theorem fam_rlimitSets (ls : List Rlimit) (h : it ∈ rlimitSets ls) : ∃ k, it = .rlimit k := by
  obtain ⟨x, _, rfl⟩ := List.mem_map.1 h; exact ⟨_, rfl⟩
theorem fam_cdiSets (ls : List Str) (h : it ∈ cdiSets ls) : ∃ k, it = .cdi k := by
  obtain ⟨x, _, rfl⟩ := List.mem_map.1 h; exact ⟨_, rfl⟩

/-- the items of a `LinuxResources` message -/
def isRes : Item → Bool
  | .hugepage _ | .unified _ | .memLimit | .memReservation | .memSwap | .memKernel | .memKernelTcp
  | .memSwappiness | .memDisableOom | .memUseHierarchy | .cpuShares | .cpuQuota | .cpuPeriod
  | .cpuRtRuntime | .cpuRtPeriod | .cpusetCpus | .cpusetMems | .pids | .blockio | .rdt => true
  | _ => false

theorem fam_resSets (r : Resources) (h : it ∈ resSets r) : isRes it = true := by
  rw [resSets_fams] at h
  obtain ⟨l, hl, hx⟩ := List.mem_flatten.1 h
  obtain ⟨j, hj⟩ := List.mem_iff_getElem?.1 hl
  have hlt : j < 20 := (List.getElem?_eq_some_iff.1 hj).1
  rw [← resFams_resTag r j l hj it hx] at hlt
  cases it <;> first | rfl | exact absurd hlt (Nat.lt_irrefl 20)
end fam

/-- the linux section is either allocated or carries nothing -/
def AdjWF (a : Adjustment) : Prop :=
  a.hasLinux = false → a.devices = [] ∧ a.resources = none ∧ a.cgroupsPath = [] ∧ a.oomScoreAdj = none

theorem adjWF_step (a : Adjustment) (op : AOp) (wf : AdjWF a) : AdjWF (stepA a op) := by
  intro h
  cases op <;> first
    | exact wf h
    | (simp [stepA] at h)

/-- the families of `adjustSets`, in the order `result.adjust` claims them, read without looking
    at `hasLinux` -/
def fams (a : Adjustment) : List (List Item) :=
  [annSets a.annotations, mountSets a.mounts, envSets a.env, argsSets a.args, deviceSets a.devices,
   resSets (a.resources.getD {}), cgroupsSets a.cgroupsPath, oomSets a.oomScoreAdj, rlimitSets a.rlimits,
   cdiSets a.cdiDevices]

/-- the position in `fams` of the one family an item can occur in -/
def famOf : Item → Nat
  | .annotation _ => 0 | .mount _ => 1 | .env _ => 2 | .args => 3 | .device _ => 4 | .cgroupsPath => 6
  | .oomScoreAdj => 7 | .rlimit _ => 8 | .cdi _ => 9 | _ => 5

theorem resSets_empty : resSets {} = [] := by decide

theorem adjustSets_fams (a : Adjustment) (wf : AdjWF a) : adjustSets a = (fams a).flatten := by
  unfold adjustSets fams
  cases hl : a.hasLinux with
  | true =>
    cases hr : a.resources <;> simp [resSets_empty]
  | false =>
    obtain ⟨h1, h2, h3, h4⟩ := wf hl
    simp [h1, h2, h3, h4, deviceSets, resSets_empty, cgroupsSets, oomSets]

theorem fams_famOf (a : Adjustment) (j : Nat) (l : List Item) (h : (fams a)[j]? = some l) (x : Item) (hx : x ∈ l) :
    famOf x = j := by
  rcases j with _|_|_|_|_|_|_|_|_|_|_ <;> cases h
  · obtain ⟨k, rfl⟩ := not_res_annSets x _ hx; rfl
  · obtain ⟨k, rfl⟩ := fam_mountSets x _ hx; rfl
  · obtain ⟨k, rfl⟩ := fam_envSets x _ hx; rfl
  · cases fam_argsSets x _ hx; rfl
  · obtain ⟨k, rfl⟩ := fam_deviceSets x _ hx; rfl
  · have hr := fam_resSets x _ hx
    cases x <;> first | rfl | cases hr
  · cases fam_cgroupsSets x _ hx; rfl
  · cases fam_oomSets x _ hx; rfl
  · obtain ⟨k, rfl⟩ := fam_rlimitSets x _ hx; rfl
  · obtain ⟨k, rfl⟩ := fam_cdiSets x _ hx; rfl

theorem annSets_insert (m : AList Str Str) (k v : Str) :
    (annSets (AList.insert m k v)).Perm
      (applyEff (annSets m) (if unmarked k then .put (.annotation k) (.str v) else .nop)) := by
  have e : ∀ l : AList Str Str,
      annSets l = ((l.map (·.1)).filter fun k => !(isMarked k).2).map Item.annotation := fun l => by
    rw [List.filter_map, List.map_map]; rfl
  rw [e, e, AList.keys_insert]
  cases hu : (isMarked k).2
  · have hm : Item.annotation k ∈ ((m.map (·.1)).filter fun k => !(isMarked k).2).map Item.annotation ↔
        k ∈ m.map (·.1) := by simp [hu]
    simp only [unmarked, hu, Bool.not_false, ↓reduceIte, applyEff, hm]
    split <;> simp [List.filter_append, hu]
  · simp only [unmarked, hu, Bool.not_true, Bool.false_eq_true, ↓reduceIte, applyEff]
    split <;> simp [List.filter_append, hu]

theorem unified_insert (m : AList Str Str) (k v : Str) :
    ((AList.insert m k v).map fun x => Item.unified x.1).Perm
      (applyEff (m.map fun x => Item.unified x.1) (.put (.unified k) (.str v))) := by
  have e : ∀ l : AList Str Str, (l.map fun x => Item.unified x.1) = (l.map (·.1)).map Item.unified :=
    fun l => (List.map_map ..).symm
  have hm : Item.unified k ∈ (m.map (·.1)).map Item.unified ↔ k ∈ m.map (·.1) := by simp
  rw [e, e, AList.keys_insert]
  simp only [applyEff, hm]
  split <;> simp

/-- one more entry in a keyed slice family: one more mention, unless its key is a removal marker -/
theorem keyed_snoc {α : Type} (g : α → Str) (f : Str → Item) (l : List α) (y : α) (v : Val) :
    (((l ++ [y]).filter fun x => !(isMarked (g x)).2).map fun x => f (g x)).Perm
      (applyEff ((l.filter fun x => !(isMarked (g x)).2).map fun x => f (g x))
        (if unmarked (g y) then .append (f (g y)) v else .nop)) := by
  unfold unmarked
  cases h : (isMarked (g y)).2 <;> simp [applyEff, List.filter_append, h]

theorem map_snoc {α : Type} (f : α → Item) (l : List α) (y : α) (v : Val) :
    ((l ++ [y]).map f).Perm (applyEff (l.map f) (.append (f y) v)) := by
  simp [applyEff]

theorem ite_put (c : Prop) [Decidable c] (it : Item) (v : Val) :
    [it].Perm (applyEff (if c then [it] else []) (.put it v)) := by
  by_cases h : c <;> simp [applyEff, h]

/-- a scalar whose empty value reads as "not set" -/
theorem ite_empty (c c' : Prop) [Decidable c] [Decidable c'] (it : Item) (v : Val) :
    (if c' then [] else [it]).Perm (applyEff (if c then [] else [it]) (if c' then .drop it else .put it v)) := by
  by_cases h : c <;> by_cases h2 : c' <;> simp [applyEff, h, h2]

theorem oomSets_set (old v : Option Int) :
    (oomSets v).Perm
      (applyEff (oomSets old) (match v with | some x => .put .oomScoreAdj (.int x) | none => .drop .oomScoreAdj)) := by
  cases v <;> cases old <;> simp [oomSets, applyEff]

/-! A removal marker is an entry whose key is marked: `unmarked (markForRemoval k)` evaluates to `false`,
so the lemmas for one more entry cover the `Remove…` helpers too. -/

theorem stepR_sets (r : Resources) (rop : ROp) :
    (resSets (stepR r rop)).Perm (applyEff (resSets r) (resEff rop)) := by
  rw [resSets_fams, resSets_fams]
  have ht := resFams_resTag r
  cases rop
  case cpus s => exact flatten_set_perm ht 13 (ite_empty _ _ _ _) (item?_ite (item?_drop rfl) (item?_put rfl))
  case mems s => exact flatten_set_perm ht 14 (ite_empty _ _ _ _) (item?_ite (item?_drop rfl) (item?_put rfl))
  case hugepage size v => exact flatten_set_perm ht 15 (map_snoc _ _ (⟨size, v⟩ : Hugepage) _) (item?_none rfl)
  case unified k v => exact flatten_set_perm ht 16 (unified_insert _ k v) (item?_put rfl)
  -- the 16 optional scalars; the position `_` is found by unification: `item?_put rfl` proves `resTag x = ?i`
  all_goals exact flatten_set_perm ht _ (ite_put _ _ _) (item?_put rfl)

theorem stepA_sets (a : Adjustment) (op : AOp) (wf : AdjWF a) :
    (adjustSets (stepA a op)).Perm (applyEff (adjustSets a) (setEff op)) := by
  rw [adjustSets_fams _ wf, adjustSets_fams _ (adjWF_step a op wf)]
  have ht := fams_famOf a
  cases op with
  | addAnnotation k v => exact flatten_set_perm ht 0 (annSets_insert _ k v) (item?_ite (item?_put rfl) (item?_none rfl))
  | removeAnnotation k => exact flatten_set_perm ht 0 (annSets_insert _ (markForRemoval k) []) (item?_none rfl)
  | addMount m =>
    exact flatten_set_perm ht 1 (keyed_snoc Mount.destination .mount _ m (.mount m))
      (item?_ite (item?_none rfl) (item?_none rfl))
  | removeMount p =>
    exact flatten_set_perm ht 1 (keyed_snoc Mount.destination .mount _ { destination := markForRemoval p } .unit)
      (item?_none rfl)
  | addEnv k v =>
    exact flatten_set_perm ht 2 (keyed_snoc KeyValue.key .env _ { key := k, value := v } (.str v))
      (item?_ite (item?_none rfl) (item?_none rfl))
  | removeEnv k =>
    exact flatten_set_perm ht 2 (keyed_snoc KeyValue.key .env _ { key := markForRemoval k } .unit) (item?_none rfl)
  | setArgs args => exact flatten_set_perm ht 3 (ite_empty _ _ _ _) (item?_ite (item?_drop rfl) (item?_put rfl))
  | updateArgs args => exact flatten_set_perm ht 3 (ite_empty _ (([] : Str) :: args = []) _ _) (item?_put rfl)
  | addHooks h => exact List.Perm.refl _
  | addRlimit t hard soft =>
    exact flatten_set_perm ht 8 (map_snoc _ _ (⟨t, hard, soft⟩ : Rlimit) _) (item?_none rfl)
  | addDevice d =>
    exact flatten_set_perm ht 4 (keyed_snoc Device.path .device _ d (.device d))
      (item?_ite (item?_none rfl) (item?_none rfl))
  | removeDevice p =>
    exact flatten_set_perm ht 4 (keyed_snoc Device.path .device _ { path := markForRemoval p } .unit) (item?_none rfl)
  | addCDIDevice n => exact flatten_set_perm ht 9 (map_snoc _ _ n _) (item?_none rfl)
  | res r =>
    refine flatten_set_perm ht 5 (stepR_sets _ r) ?_
    cases r
    case cpus s | mems s => exact item?_ite (item?_drop rfl) (item?_put rfl)
    case hugepage s v => exact item?_none rfl
    all_goals exact item?_put rfl
  | setLinuxCgroupsPath s => exact flatten_set_perm ht 6 (ite_empty _ _ _ _) (item?_ite (item?_drop rfl) (item?_put rfl))
  | setLinuxOomScoreAdj v =>
    exact flatten_set_perm ht 7 (oomSets_set _ v) (by cases v <;> rintro _ ⟨⟩ <;> rfl)

theorem runA_sets (prog : List AOp) : AdjWF (runA prog) ∧ (adjustSets (runA prog)).Perm (progSets prog) :=
  List.foldl_rel (r := fun a acc => AdjWF a ∧ (adjustSets a).Perm acc) ⟨fun _ => ⟨rfl, rfl, rfl, rfl⟩, by decide⟩
    fun op _ a _ ⟨wf, h⟩ => ⟨adjWF_step a op wf, (stepA_sets a op wf).trans (applyEff_perm _ h)⟩

theorem runA_sets_perm (prog : List AOp) : (adjustSets (runA prog)).Perm (progSets prog) := (runA_sets prog).2

theorem setsUpd_eq (u : Update) : setsUpd u = resSets (u.resources.getD {}) := by
  unfold setsUpd resItems
  cases u.resources <;> simp [resSets_empty]

theorem stepU_sets (u : Update) (op : UOp) :
    (setsUpd (stepU u op)).Perm (applyEff (setsUpd u) (setEffU op)) := by
  rw [setsUpd_eq, setsUpd_eq]
  cases op with
  | setContainerId id => exact List.Perm.refl _
  | setIgnoreFailure => exact List.Perm.refl _
  | res r => exact stepR_sets _ r

theorem runU_sets_perm (prog : List UOp) : (setsUpd (runU prog)).Perm (progSetsU prog) :=
  List.foldl_rel (r := fun u acc => (setsUpd u).Perm acc) (by decide)
    fun op _ u _ h => (stepU_sets u op).trans (applyEff_perm _ h)

end Nri.Builder
