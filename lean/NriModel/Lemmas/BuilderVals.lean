/-
Values. One resource helper writes exactly its own field
(`stepR_writes`, `stepR_frame`, `stepR_hugepages`); hence one helper keeps "every (item, value) pair
of the syntactic reading is what `fieldVal` reads back" (`ValsOK`, `stepR_vals`), which is what
`builder_update_vals` folds over an update program. `foldR_vals` is the same fold for a bare list of
resource helpers. `fieldVal` (Lemmas/ResultWalkVals.lean) reads the 18 scalars and the unified keys;
hugepage limits are a slice and are read as a list.
-/
import NriModel.Lemmas.BuilderSets
import NriModel.Lemmas.ResultWalkVals

namespace Nri.Builder
open Nri Nri.NApi Nri.Result Nri.Ledger Nri.UpdateWalk

/-- the item a resource helper writes -/
def ROp.item : ROp → Item
  | .memLimit _ => .memLimit | .memReservation _ => .memReservation | .memSwap _ => .memSwap
  | .memKernel _ => .memKernel | .memKernelTcp _ => .memKernelTcp | .memSwappiness _ => .memSwappiness
  | .memDisableOom => .memDisableOom | .memUseHierarchy => .memUseHierarchy
  | .cpuShares _ => .cpuShares | .cpuQuota _ => .cpuQuota | .cpuPeriod _ => .cpuPeriod
  | .cpuRtRuntime _ => .cpuRtRuntime | .cpuRtPeriod _ => .cpuRtPeriod | .cpus _ => .cpusetCpus
  | .mems _ => .cpusetMems | .pids _ => .pids | .hugepage s _ => .hugepage s | .blockio _ => .blockio
  | .rdt _ => .rdt | .unified k _ => .unified k

/-- what `fieldVal` reads in that field afterwards -/
def ROp.fval : ROp → FVal
  | .memLimit v => .int (some v) | .memReservation v => .int (some v) | .memSwap v => .int (some v)
  | .memKernel v => .int (some v) | .memKernelTcp v => .int (some v) | .memSwappiness v => .nat (some v)
  | .memDisableOom => .bool (some true) | .memUseHierarchy => .bool (some true)
  | .cpuShares v => .nat (some v) | .cpuQuota v => .int (some v) | .cpuPeriod v => .nat (some (u64OfInt v))
  | .cpuRtRuntime v => .int (some v) | .cpuRtPeriod v => .nat (some v) | .cpus s => .str s
  | .mems s => .str s | .pids v => .int (some v) | .hugepage _ _ => .other | .blockio s => .ostr (some s)
  | .rdt s => .ostr (some s) | .unified _ v => .ostr (some v)

theorem stepR_writes (r : Resources) (rop : ROp) : fieldVal rop.item (stepR r rop) = rop.fval := by
  cases rop <;> first
    | rfl
    | simp [stepR, ROp.item, ROp.fval, fieldVal, AList.lookup_insert_self]

theorem stepR_frame (r : Resources) (rop : ROp) (it : Item) (h : it ≠ rop.item) :
    fieldVal it (stepR r rop) = fieldVal it r := by
  cases it
  -- items `fieldVal` does not read
  case annotation | mount | env | args | device | hugepage | cgroupsPath | oomScoreAdj | rlimit | cdi => rfl
  case unified k =>
    cases rop
    case unified k' v =>
      exact congrArg FVal.ostr (AList.lookup_insert_other _ _ _ _ fun heq => h (heq ▸ rfl))
    all_goals rfl
  all_goals cases rop <;> first | rfl | exact absurd rfl h

theorem stepR_hugepages (r : Resources) (rop : ROp) :
    (stepR r rop).hugepages = r.hugepages ++ (match rop with | .hugepage s v => [{ pageSize := s, limit := v }] | _ => []) := by
  cases rop <;> simp [stepR, withMem, withCpu]

/-- the reading of a program value in the vocabulary of `fieldVal` -/
def fvalOf : Item → Val → FVal
  | .cpusetCpus, .str s => .str s
  | .cpusetMems, .str s => .str s
  | _, .str s => .ostr (some s)
  | _, .int v => .int (some v)
  | _, .nat v => .nat (some v)
  | _, .bool b => .bool (some b)
  | _, _ => .other

def isHugepage : Item → Bool
  | .hugepage _ => true
  | _ => false

theorem resEff_cases (rop : ROp) :
    (∃ v, resEff rop = .put rop.item v ∧ fvalOf rop.item v = rop.fval) ∨
    resEff rop = .drop rop.item ∨ ∃ v, resEff rop = .append rop.item v ∧ isHugepage rop.item = true := by
  cases rop
  case cpus s | mems s =>
    by_cases hs : s = []
    · exact .inr (.inl (if_pos hs))
    · exact .inl ⟨_, if_neg hs, rfl⟩
  case hugepage s v => exact .inr (.inr ⟨_, rfl, rfl⟩)
  all_goals exact .inl ⟨_, rfl, rfl⟩

/-- every non-hugepage pair of `acc` reads back from `r` -/
def ValsOK (r : Resources) (acc : List (Item × Val)) : Prop :=
  ∀ it v, (it, v) ∈ acc → isHugepage it = false → fieldVal it r = fvalOf it v

theorem mem_applyEffV_put (acc : List (Item × Val)) (x it : Item) (w v : Val)
    (hm : (it, v) ∈ applyEffV acc (.put x w)) : (it = x ∧ v = w) ∨ (it ≠ x ∧ (it, v) ∈ acc) := by
  simp only [applyEffV] at hm
  split at hm
  · obtain ⟨y, hy1, hy⟩ := List.mem_map.1 hm
    split at hy
    · cases hy; exact .inl ⟨rfl, rfl⟩
    · rename_i hne; cases hy; exact .inr ⟨hne, hy1⟩
  · rename_i hany
    rcases List.mem_append.1 hm with hm | hm
    · exact .inr ⟨fun heq => hany (List.any_eq_true.2 ⟨(it, v), hm, by simp [heq]⟩), hm⟩
    · cases List.mem_singleton.1 hm; exact .inl ⟨rfl, rfl⟩

theorem stepR_vals (r : Resources) (rop : ROp) (acc : List (Item × Val)) (h : ValsOK r acc) :
    ValsOK (stepR r rop) (applyEffV acc (resEff rop)) := by
  intro it v hm hh
  -- the pairs of other items read as before, by the frame
  have keep : it ≠ rop.item → (it, v) ∈ acc → fieldVal it (stepR r rop) = fvalOf it v := fun hne hacc => by
    rw [stepR_frame _ _ _ hne]; exact h it v hacc hh
  rcases resEff_cases rop with ⟨w, he, hv⟩ | he | ⟨w, he, hp⟩ <;> rw [he] at hm
  · rcases mem_applyEffV_put _ _ _ _ _ hm with ⟨rfl, rfl⟩ | ⟨hne, hacc⟩
    · rw [stepR_writes, hv]
    · exact keep hne hacc
  · simp only [applyEffV, List.mem_filter, ne_eq, decide_not, Bool.not_eq_eq_eq_not, Bool.not_true,
      decide_eq_false_iff_not] at hm
    exact keep hm.2 hm.1
  · rcases List.mem_append.1 hm with hm | hm
    · exact keep (fun heq => by rw [heq, hp] at hh; cases hh) hm
    · cases List.mem_singleton.1 hm; rw [hp] at hh; cases hh

theorem foldR_vals (prog : List ROp) : ∀ (r : Resources) (acc : List (Item × Val)), ValsOK r acc →
    ValsOK (prog.foldl stepR r) (prog.foldl (fun acc op => applyEffV acc (resEff op)) acc) :=
  fun _ _ h => List.foldl_rel h fun op _ r acc h => stepR_vals r op acc h

theorem applyEffV_fst (acc : List (Item × Val)) (e : Eff) :
    (applyEffV acc e).map (·.1) = applyEff (acc.map (·.1)) e := by
  cases e with
  | append it v => simp [applyEffV, applyEff]
  | nop => rfl
  | drop it =>
    simp only [applyEffV, applyEff, List.filter_map]
    rfl
  | put it v =>
    simp only [applyEffV, applyEff]
    have hiff : acc.any (fun x => decide (x.1 = it)) = true ↔ it ∈ acc.map (·.1) := by
      simp only [List.any_eq_true, decide_eq_true_eq, List.mem_map]
    by_cases hm : it ∈ acc.map (·.1)
    · simp only [hiff.2 hm, ↓reduceIte, hm, List.map_map]
      apply List.map_congr_left
      intro x _
      simp only [Function.comp]
      split
      · rename_i h; exact h.symm
      · rfl
    · have : ¬ (acc.any (fun x => decide (x.1 = it)) = true) := fun h => hm (hiff.1 h)
      simp [this, hm]

theorem fold_vals_fst {α : Type} (f : α → Eff) (prog : List α) (acc : List (Item × Val)) :
    (prog.foldl (fun acc op => applyEffV acc (f op)) acc).map (·.1) =
      prog.foldl (fun acc op => applyEff acc (f op)) (acc.map (·.1)) :=
  List.foldl_rel (r := fun (accV : List (Item × Val)) acc => accV.map (·.1) = acc) rfl
    fun op _ accV _ h => h ▸ applyEffV_fst accV (f op)

theorem progVals_fst (prog : List AOp) : (progVals prog).map (·.1) = progSets prog := fold_vals_fst setEff prog []
theorem progValsU_fst (prog : List UOp) : (progValsU prog).map (·.1) = progSetsU prog := fold_vals_fst setEffU prog []

end Nri.Builder
