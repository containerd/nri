/-
C03, annotations.  The reply's annotation map after one response (`annStep`) read through
`lookup`, and the step lemma: applying the new reply to a spec's annotations gives the same map
as applying the old reply and then the plugin's own annotations.  No ledger fact is needed.
Guard used: every key of the response is `keyOk`.
-/
import NriModel.Lemmas.ComposeBasic
import NriModel.Lemmas.ComposeScalars

namespace Nri.Compose
open Nri Nri.Generate

def annG (x : AList Str Str) (a : NApi.Adjustment) : AList Str Str :=
  Annotations.apply x (toGen a).annotations

theorem erase_sublist {κ ν : Type} [DecidableEq κ] (m : AList κ ν) (k : κ) : (AList.erase m k).Sublist m := by
  induction m with
  | nil => exact .slnil
  | cons e rest ih =>
    unfold AList.erase
    split
    · exact ih.cons _
    · exact ih.cons_cons _

theorem nodup_foldl_ers {ε ν : Type} (f : ε → Str) (L : List ε) (m : AList Str ν)
    (h : (m.map (·.1)).Nodup) : ((L.foldl (fun m e => AList.erase m (f e)) m).map (·.1)).Nodup :=
  List.foldlRecOn (motive := fun m : AList Str ν => (m.map (·.1)).Nodup) L _ h fun m h e _ =>
    ((erase_sublist m (f e)).map (·.1)).nodup h

def annLone (a : AList Str Str) : List Str :=
  (Result.annDel a).filter fun k => !((Result.annSet a).any fun (k', _) => k' = k)

def annBoth (a : AList Str Str) : AList Str Str :=
  (Result.annSet a).filter fun (k, _) => (Result.annDel a).contains k

theorem annStep_eq (R a : AList Str Str) :
    annStep R a =
      (annLone a).foldl (fun m k => AList.erase m k)
        ((annLone a).foldl (fun m k => AList.insert m ('-' :: k) [])
          ((Result.annSet a).foldl (fun m e => AList.insert m e.1 e.2)
            ((annBoth a).foldl (fun m e => AList.insert m ('-' :: e.1) []) R))) := by
  have h1 : (fun (m : AList Str Str) (x : Str × Str) => match x with | (k, _) => AList.insert m (NApi.markForRemoval k) []) =
      (fun m e => AList.insert m ('-' :: e.1) []) := by funext m ⟨k, v⟩; rfl
  have h2 : (fun (m : AList Str Str) (x : Str × Str) => match x with | (k, v) => AList.insert m k v) =
      (fun m e => AList.insert m e.1 e.2) := by funext m ⟨k, v⟩; rfl
  unfold annStep annLone annBoth
  simp only [h1, h2]
  rfl

theorem annStep_nodup (R a : AList Str Str) (h : (R.map (·.1)).Nodup) : ((annStep R a).map (·.1)).Nodup := by
  rw [annStep_eq]
  exact nodup_foldl_ers _ _ _ (nodup_foldl_ins _ _ _ _ (nodup_foldl_ins _ _ _ _ (nodup_foldl_ins _ _ _ _ h)))

theorem annDel_contains (a : AList Str Str) (k : Str) :
    (Result.annDel a).contains k = a.any (Annotations.removes k) := by
  rw [Result.annDel_eq, delKeys_contains, List.any_map]
  rfl

theorem mem_annSet (a : AList Str Str) (e : Str × Str) :
    e ∈ Result.annSet a ↔ e ∈ a ∧ Api.isMarked e.1 = false := by
  unfold Result.annSet
  obtain ⟨k, v⟩ := e
  simp [List.mem_filter]

theorem lastMatch_annSet (a : AList Str Str) (j : Str) :
    lastMatch (fun e : Str × Str => e.1 == j) (Result.annSet a) = lastMatch (Annotations.setsKey j) a := by
  unfold Result.annSet
  rw [Env.lastMatch_filter]
  apply lastMatch_congr
  intro e _
  obtain ⟨k, v⟩ := e
  simp [Annotations.setsKey]

theorem annSet_any (a : AList Str Str) (k : Str) :
    ((Result.annSet a).any fun (k', _) => k' = k) = a.any (Annotations.setsKey k) := by
  have h : ((Result.annSet a).any fun (k', _) => k' = k) = (Result.annSet a).any (fun e => e.1 == k) := by
    congr 1; funext ⟨k', v⟩; rw [Bool.eq_iff_iff]; simp
  rw [h, any_eq_lastMatch_isSome, lastMatch_annSet, ← any_eq_lastMatch_isSome]

theorem annLone_any (a : AList Str Str) (k : Str) :
    (annLone a).any (fun x => x == k) =
      (a.any (Annotations.removes k) && !a.any (Annotations.setsKey k)) := by
  have : (annLone a).any (fun x => x == k) = (annLone a).contains k := by
    rw [Bool.eq_iff_iff]; simp
  rw [this, annLone, Bool.eq_iff_iff, List.contains_iff_mem, List.mem_filter, ← List.contains_iff_mem,
    annDel_contains, annSet_any]
  simp

theorem annBoth_any (a : AList Str Str) (k : Str) :
    (annBoth a).any (fun e => e.1 == k) = (a.any (Annotations.removes k) && a.any (Annotations.setsKey k)) := by
  rw [annBoth, List.any_filter, ← annDel_contains, ← annSet_any, Bool.eq_iff_iff]
  simp only [List.any_eq_true, Bool.and_eq_true, beq_iff_eq, decide_eq_true_eq]
  constructor
  · rintro ⟨⟨k', v⟩, he, hc, rfl⟩
    exact ⟨hc, _, he, rfl⟩
  · rintro ⟨hc, ⟨k', v⟩, he, rfl⟩
    exact ⟨_, he, hc, rfl⟩

theorem annStep_lookup_unmarked (R a : AList Str Str) (j : Str) (hj : Api.isMarked j = false) :
    AList.lookup (annStep R a) j = AList.lookup (Annotations.apply R a) j := by
  rw [Annotations.lookup_apply, annStep_eq, lookup_foldl_ers, lookup_foldl_ins, lookup_foldl_ins, lookup_foldl_ins,
    lastMatch_annSet]
  have hne : ∀ k : Str, ('-' :: k == j) = false := by
    intro k
    cases hb : ('-' :: k == j)
    · rfl
    · have : '-' :: k = j := by simpa using hb
      rw [← this] at hj; cases hj
  have h1 : lastMatch (fun k : Str => '-' :: k == j) (annLone a) = none := by
    rw [lastMatch_none_iff]; intro e _; exact hne e
  have h2 : lastMatch (fun e : Str × Str => '-' :: e.1 == j) (annBoth a) = none := by
    rw [lastMatch_none_iff]; intro e _; exact hne e.1
  rw [h1, h2]
  simp only [pick_none]
  rw [annLone_any]
  cases hs : lastMatch (Annotations.setsKey j) a with
  | some e =>
    have : a.any (Annotations.setsKey j) = true := by rw [any_eq_lastMatch_isSome, hs]; rfl
    simp [this]
  | none =>
    have : a.any (Annotations.setsKey j) = false := by rw [any_eq_lastMatch_isSome, hs]; rfl
    rw [this, Bool.not_false, Bool.and_true]
    rfl

theorem annStep_lookup_marker (R a : AList Str Str) (hk : ∀ k ∈ a.map (·.1), keyOk k = true) (k : Str) :
    AList.lookup (annStep R a) ('-' :: k) =
      if a.any (Annotations.removes k) then some [] else AList.lookup R ('-' :: k) := by
  rw [annStep_eq, lookup_foldl_ers, lookup_foldl_ins, lookup_foldl_ins, lookup_foldl_ins]
  -- no lone key is itself marked
  have hlone : (annLone a).any (fun x => x == '-' :: k) = false := by
    rw [Bool.eq_false_iff]; intro h
    obtain ⟨x, hx, hxe⟩ := List.any_eq_true.1 h
    have hxe : x = '-' :: k := by simpa using hxe
    subst hxe
    have hm : ('-' :: k) ∈ Result.annDel a := by
      unfold annLone at hx; exact (List.mem_filter.1 hx).1
    rw [Result.annDel_eq] at hm
    have := delKeys_unmarked _ hk _ hm
    cases this
  -- no set entry is a marker
  have hset : lastMatch (fun e : Str × Str => e.1 == '-' :: k) (Result.annSet a) = none := by
    rw [lastMatch_none_iff]; intro e he
    have := ((mem_annSet a e).1 he).2
    cases hb : (e.1 == '-' :: k)
    · rfl
    · have h2 : e.1 = '-' :: k := by simpa using hb
      rw [h2] at this; cases this
  rw [hlone, hset]
  simp only [Bool.false_eq_true, if_false, pick_none]
  rw [pick_const_any, pick_const_any]
  have e1 : (annLone a).any (fun x => '-' :: x == '-' :: k) =
      (a.any (Annotations.removes k) && !a.any (Annotations.setsKey k)) := by
    rw [← annLone_any]; congr 1
  have e2 : (annBoth a).any (fun e => '-' :: e.1 == '-' :: k) =
      (a.any (Annotations.removes k) && a.any (Annotations.setsKey k)) := by
    rw [← annBoth_any]; congr 1
  rw [e1, e2]
  cases a.any (Annotations.removes k) <;> cases a.any (Annotations.setsKey k) <;> rfl

theorem setsKey_eq (k : Str) (e : Str × Str) :
    Annotations.setsKey k e = (!Api.isMarked k && e.1 == k) := by
  unfold Annotations.setsKey
  cases hb : (e.1 == k)
  · simp
  · rw [eq_of_beq hb]

theorem lastMatch_setsKey_marked (M : AList Str Str) {k : Str} (hm : Api.isMarked k = true) :
    lastMatch (Annotations.setsKey k) M = none := by
  rw [lastMatch_none_iff]
  intro e _
  rw [setsKey_eq, hm]
  rfl

theorem any_removes_eq (M : AList Str Str) (k : Str) :
    M.any (Annotations.removes k) = (AList.lookup M ('-' :: k)).isSome := by
  induction M with
  | nil => rfl
  | cons e rest ih =>
    obtain ⟨k', v'⟩ := e
    simp only [List.any_cons, AList.lookup, ih]
    by_cases h : k' = '-' :: k
    · subst h; simp [Annotations.removes, Api.isMarked, Api.stripMarker]
    · have : Annotations.removes k (k', v') = false := by
        unfold Annotations.removes
        rw [Bool.eq_false_iff]; intro h2
        simp only [Bool.and_eq_true, beq_iff_eq] at h2
        apply h
        rw [(isMarked_iff k').1 h2.1, h2.2]
      simp [this, h]

theorem apply_lookup_nodup (x M : AList Str Str) (hn : (M.map (·.1)).Nodup) (k : Str) :
    AList.lookup (Annotations.apply x M) k =
      (if Api.isMarked k then none else AList.lookup M k).or
        (if (AList.lookup M ('-' :: k)).isSome then none else AList.lookup x k) := by
  rw [Annotations.lookup_apply, any_removes_eq]
  cases hm : Api.isMarked k with
  | true => simp [lastMatch_setsKey_marked M hm]
  | false =>
    have : lastMatch (Annotations.setsKey k) M = lastMatch (fun e : Str × Str => e.1 == k) M :=
      lastMatch_congr M fun e _ => by rw [setsKey_eq, hm]; rfl
    rw [this, lastMatch_key_nodup M hn]
    simp

theorem annG_step (x : AList Str Str) (R a : NApi.Adjustment)
    (hn : (R.annotations.map (·.1)).Nodup) (hk : ∀ k ∈ a.annotations.map (·.1), keyOk k = true) :
    MapEq (annG x (replyStep R a)) (annG (annG x R) a) := by
  intro k
  unfold annG
  simp only [toGen_annotations]
  show AList.lookup (Annotations.apply x (annStep R.annotations a.annotations)) k = _
  rw [apply_lookup_nodup x _ (annStep_nodup _ _ hn), annStep_lookup_marker _ _ hk]
  rw [Annotations.lookup_apply (Annotations.apply x R.annotations), apply_lookup_nodup x _ hn]
  cases hm : Api.isMarked k with
  | true =>
    -- a marked key is neither set nor removed by a well-formed response
    have h1 := lastMatch_setsKey_marked a.annotations hm
    have h2 : a.annotations.any (Annotations.removes k) = false := by
      rw [Bool.eq_false_iff]; intro h
      obtain ⟨e, he, hr⟩ := List.any_eq_true.1 h
      simp only [Annotations.removes, Bool.and_eq_true, beq_iff_eq] at hr
      have := (keyOk_iff e.1).1 (hk e.1 (List.mem_map.2 ⟨e, he, rfl⟩))
      rw [hr.2, hm] at this
      cases this
    simp [h1, h2]
  | false =>
    rw [annStep_lookup_unmarked _ _ k hm, Annotations.lookup_apply]
    simp only [Bool.false_eq_true, if_false]
    cases hs : lastMatch (Annotations.setsKey k) a.annotations with
    | some e => simp
    | none => by_cases hr : a.annotations.any (Annotations.removes k) = true <;> simp [hr]

theorem annG_cong (x y : AList Str Str) (a : NApi.Adjustment) (h : MapEq x y) :
    MapEq (annG x a) (annG y a) := by
  intro k
  unfold annG
  rw [Annotations.lookup_apply, Annotations.lookup_apply, h k]

end Nri.Compose
