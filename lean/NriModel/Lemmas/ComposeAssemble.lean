/-
C03 assembled: the invariant of the reply, the per-step condition, the per-family fold
theorems, the fields of `adjust` on a converted adjustment, and the main theorem — if the
sequential application succeeds, the generator succeeds on the combined reply and the two specs
are `SpecEq`.
-/
import NriModel.Lemmas.ComposeLedger
import NriModel.Lemmas.ComposeAnnotations
import NriModel.Lemmas.ComposeDevices
import NriModel.Lemmas.ComposeRootfs
import NriModel.Lemmas.ComposeEnv

namespace Nri.Compose
open Nri Nri.Generate

structure WFParts (a : NApi.Adjustment) : Prop where
  ann : ∀ k ∈ a.annotations.map (·.1), keyOk k = true
  mounts : ∀ k ∈ a.mounts.map (·.destination), keyOk k = true
  env : ∀ k ∈ a.env.map (·.key), keyOk k = true
  envKeys : EnvKeysOk a
  devices : ∀ k ∈ a.devices.map (·.path), keyOk k = true
  args : argsOk a.args = true

theorem mem_stripMarker {c : Char} {k : Str} (h : c ∈ Api.stripMarker k) : c ∈ k := by
  cases hm : Api.isMarked k
  · rwa [Api.strip_of_not_marked hm] at h
  · rw [(isMarked_iff k).1 hm]
    exact List.mem_cons_of_mem _ h

theorem wfParts (a : NApi.Adjustment) (h : WellFormedCore a) : WFParts a := by
  unfold WellFormedCore wellFormedCore at h
  simp only [Bool.and_eq_true] at h
  obtain ⟨⟨⟨⟨⟨h1, h2⟩, h3⟩, h4⟩, h5⟩, h6⟩ := h
  refine ⟨(keysOk_iff _).1 h1, (keysOk_iff _).1 h2, (keysOk_iff _).1 h3, ?_,
    (keysOk_iff _).1 h5, h6⟩
  intro e he hm
  have := List.all_eq_true.1 h4 e he
  simp only [Bool.not_eq_true', List.contains_eq_mem, decide_eq_false_iff_not] at this
  exact this (mem_stripMarker hm)

theorem wellFormed_core (a : NApi.Adjustment) (h : WellFormed a) : WellFormedCore a := by
  unfold WellFormed wellFormed at h
  simp only [Bool.and_eq_true] at h
  exact h.1

theorem wellFormed_noProp (a : NApi.Adjustment) (h : WellFormed a) : a.mounts.all noPropagation = true := by
  unfold WellFormed wellFormed at h
  simp only [Bool.and_eq_true] at h
  exact h.2

structure ReplyInv (R : NApi.Adjustment) : Prop where
  hasLinux : R.hasLinux = true
  args : argsNorm R.args
  ann : (R.annotations.map (·.1)).Nodup
  uni : ((uniOf R).map (·.1)).Nodup
  envKeys : EnvKeysOk R

structure StepOk (R a : NApi.Adjustment) : Prop extends LedgerOk R a where
  wf : WellFormedCore a

theorem replyInv_reply0 : ReplyInv reply0 := by
  refine ⟨rfl, ?_, by simp [reply0], by simp [reply0, uniOf, resOf, Result.normRes], ?_⟩
  · intro x rest h; simp [reply0] at h
  · intro e he; simp [reply0] at he

theorem replyInv_step (R a : NApi.Adjustment) (hR : ReplyInv R) (hs : StepOk R a) :
    ReplyInv (replyStep R a) := by
  have w := wfParts a hs.wf
  exact ⟨hR.hasLinux, argsStep_norm R.args a.args hR.args w.args, annStep_nodup _ _ hR.ann,
    uniOf_step_nodup R a hR.hasLinux hR.uni, envKeysOk_step R a hR.envKeys w.envKeys⟩

theorem hooksG_reply0 (x : Oci.Hooks) : hooksG x reply0 = x := by
  rw [hooksG_eq]; exact hooksApply_empty x
theorem rlimitsG_reply0 (x : List Oci.Rlimit) : rlimitsG x reply0 = x := by simp [rlimitsG, reply0]
theorem cdiG_reply0 (has : Bool) (bad x : List Str) : cdiG has bad x reply0 = .ok x := by
  simp [cdiG, cdiAfter, reply0]

section Families
variable (as : List NApi.Adjustment) (hc : Chain StepOk reply0 as)
include hc

theorem fam_eq {X : Type} (G : X → NApi.Adjustment → X) (h0 : ∀ x, G x reply0 = x)
    (hstep : ∀ x R a, ReplyInv R → StepOk R a → G x (replyStep R a) = G (G x R) a) (x : X) :
    G x (as.foldl replyStep reply0) = as.foldl G x := by
  rw [fold_eq G (fun _ => True) (fun _ => True) ReplyInv StepOk (fun _ _ _ _ => trivial) (fun _ _ => trivial)
    (fun _ _ _ => trivial) replyInv_step (fun x R a _ => hstep x R a) as reply0 x trivial replyInv_reply0 hc, h0]

theorem fam_ok {X ε : Type} (G : X → NApi.Adjustment → Except ε X) (h0 : ∀ x, G x reply0 = .ok x)
    (hstep : ∀ x y y1 R a, ReplyInv R → StepOk R a → G x R = .ok y → G y a = .ok y1 → G x (replyStep R a) = .ok y1)
    (x z : X) (h : foldE G x as = .ok z) : G x (as.foldl replyStep reply0) = .ok z :=
  foldE_sim G ReplyInv StepOk replyInv_step hstep as reply0 x x z replyInv_reply0 hc (h0 x) h

theorem fam_hooks (x : Oci.Hooks) : hooksG x (as.foldl replyStep reply0) = as.foldl hooksG x :=
  fam_eq as hc hooksG hooksG_reply0 (fun x R a _ _ => hooksG_step x R a) x

theorem fam_rlimits (x : List Oci.Rlimit) : rlimitsG x (as.foldl replyStep reply0) = as.foldl rlimitsG x :=
  fam_eq as hc rlimitsG rlimitsG_reply0 (fun x R a _ _ => rlimitsG_step x R a) x

theorem fam_args (x : List Str) : argsG x (as.foldl replyStep reply0) = as.foldl argsG x :=
  fam_eq as hc argsG (fun _ => rfl) (fun x R a hR hs => argsG_step x R a hR.args (wfParts a hs.wf).args) x

theorem fam_cgroups (x : Str) : cgroupsG x (as.foldl replyStep reply0) = as.foldl cgroupsG x :=
  fam_eq as hc cgroupsG (fun _ => rfl) (fun x R a hR _ => cgroupsG_step x R a hR.hasLinux) x

theorem fam_oom (x : Option Int) : oomG x (as.foldl replyStep reply0) = as.foldl oomG x :=
  fam_eq as hc oomG (fun _ => rfl) (fun x R a hR _ => oomG_step x R a hR.hasLinux) x

theorem fam_pids (x : Option Int) : pidsG x (as.foldl replyStep reply0) = as.foldl pidsG x :=
  fam_eq as hc pidsG (fun _ => rfl) (fun x R a hR _ => pidsG_step x R a hR.hasLinux) x

theorem fam_cpu (x : Oci.CPU) : cpuG x (as.foldl replyStep reply0) = as.foldl cpuG x :=
  fam_eq as hc cpuG (fun _ => rfl) (fun x R a hR _ => cpuG_step x R a hR.hasLinux) x

theorem fam_memory (x : Oci.Memory) : memG x (as.foldl replyStep reply0) = as.foldl memG x :=
  fam_eq as hc memG (fun _ => rfl) (fun x R a hR hs => memG_step x R a hR.hasLinux hs.mem) x

theorem fam_hugepages (x : List Oci.HugepageLimit) : hugeG x (as.foldl replyStep reply0) = as.foldl hugeG x :=
  fam_eq as hc hugeG (fun _ => rfl) (fun x R a hR _ => hugeG_step x R a hR.hasLinux) x

theorem fam_mapEq (G : AList Str Str → NApi.Adjustment → AList Str Str)
    (hstep : ∀ x R a, ReplyInv R → StepOk R a → MapEq (G x (replyStep R a)) (G (G x R) a))
    (hcong : ∀ x y a, MapEq x y → MapEq (G x a) (G y a)) (x : AList Str Str) :
    MapEq (G x (as.foldl replyStep reply0)) (as.foldl G (G x reply0)) :=
  fold_sim G MapEq (fun _ => True) (fun _ => True) ReplyInv StepOk
    (fun _ _ => rfl) (fun _ _ _ h1 h2 k => (h1 k).trans (h2 k))
    (fun _ _ _ _ => trivial) (fun _ _ => trivial) (fun _ _ _ => trivial) replyInv_step
    (fun x R a _ => hstep x R a) (fun x y a _ _ _ => hcong x y a) as reply0 x trivial replyInv_reply0 hc

theorem fam_unified (x : AList Str Str) : MapEq (unifiedG x (as.foldl replyStep reply0)) (as.foldl unifiedG x) :=
  fam_mapEq as hc unifiedG (fun x R a hR _ => unifiedG_step x R a hR.hasLinux hR.uni) unifiedG_cong x

theorem fam_annotations (x : AList Str Str) : MapEq (annG x (as.foldl replyStep reply0)) (as.foldl annG x) :=
  fam_mapEq as hc annG (fun x R a hR hs => annG_step x R a hR.ann (wfParts a hs.wf).ann) annG_cong x

theorem fam_devices (x : Devices.State) (hx : NodupKeys Oci.Device.path x.1) :
    DevEq (devG x (as.foldl replyStep reply0)) (as.foldl devG x) :=
  fold_sim devG DevEq (fun st => NodupKeys Oci.Device.path st.1) (fun _ => True) ReplyInv StepOk
    (fun _ => ⟨rfl, fun _ h => h⟩) (fun _ _ _ h1 h2 => ⟨h1.1.trans h2.1, fun r hr => h2.2 r (h1.2 r hr)⟩)
    (fun x a hx _ => devG_nodup x a hx) (fun _ _ => trivial) (fun _ _ _ => trivial) replyInv_step
    (fun x R a hx hR hs => devG_step x R a hx hR.hasLinux (wfParts a hs.wf).devices)
    (fun x y a hx hy _ h => devG_cong x y a hx hy h) as reply0 x hx replyInv_reply0 hc

theorem fam_mounts (x : List Oci.Mount) (hx : NodupKeys Oci.Mount.destination x) :
    mntG x (as.foldl replyStep reply0) = as.foldl mntG x := by
  rw [fold_eq mntG (fun ms => NodupKeys Oci.Mount.destination ms) (fun _ => True) ReplyInv StepOk
    (fun x a hx _ => mntG_nodup x a hx) (fun _ _ => trivial) (fun _ _ _ => trivial) replyInv_step
    (fun x R a hx _ hs => mntG_step x R a hx (wfParts a hs.wf).mounts) as reply0 x hx replyInv_reply0 hc]
  rfl

theorem fam_env (x : List Str) (hx : Env.WF x) :
    EnvEq (envG x (as.foldl replyStep reply0)) (as.foldl envG x) :=
  fold_sim envG EnvEq Env.WF EnvKeysOk ReplyInv StepOk
    (fun _ _ _ => rfl) (fun _ _ _ h1 h2 k hk => (h1 k hk).trans (h2 k hk))
    (fun x a hx hk => envG_wf x a hx hk) (fun _ hR => hR.envKeys) (fun _ a hs => (wfParts a hs.wf).envKeys)
    replyInv_step
    (fun x R a hx hR hs => envG_step x R a hx hR.envKeys (wfParts a hs.wf).envKeys (wfParts a hs.wf).env)
    (fun x y a hx hy hk h => envG_cong x y a hx hy hk h) as reply0 x hx replyInv_reply0 hc

theorem fam_cdi (has : Bool) (bad : List Str) (x z : List Str) (h : foldE (cdiG has bad) x as = .ok z) :
    cdiG has bad x (as.foldl replyStep reply0) = .ok z :=
  fam_ok as hc (cdiG has bad) (cdiG_reply0 has bad) (fun x y y1 R a _ _ => cdiG_step has bad x y y1 R a) x z h

theorem fam_blockio (res : Option (Str → Except Unit Nat)) (x z : Option Nat)
    (h : foldE (blockioG res) x as = .ok z) : blockioG res x (as.foldl replyStep reply0) = .ok z :=
  fam_ok as hc (blockioG res) (fun _ => rfl)
    (fun x y y1 R a hR _ => blockioG_step res x y y1 R a hR.hasLinux) x z h

theorem fam_rdt (res : Option (Str → Except Unit Str)) (x z : Option Str)
    (h : foldE (rdtG res) x as = .ok z) : rdtG res x (as.foldl replyStep reply0) = .ok z :=
  fam_ok as hc (rdtG res) (fun _ => rfl) (fun x y y1 R a hR _ => rdtG_step res x y y1 R a hR.hasLinux) x z h

theorem replyInv_foldl : ReplyInv (as.foldl replyStep reply0) :=
  Chain.foldl replyInv_step replyInv_reply0 hc

end Families

section Adjust
variable {ext : Externals} {bad : List Str}
  (hi : ext.injectCDI = some (recordingInjector bad) ∨ ext.injectCDI = none)
include hi

theorem adjust_ok_parts {s s' : Oci.Spec} {b : Api.Adjustment} (h : adjust ext s b = .ok s') :
    ∃ c bl r mp,
      cdiAfter ext.injectCDI.isSome bad s.cdi b.cdiDevices = .ok c ∧
      Resources.applyBlockIO ext.resolveBlockIO s.blockio b.blockioClass = .ok bl ∧
      Resources.applyRdt ext.resolveRdt s.rdt b.rdtClass = .ok r ∧
      Mounts.apply ext.hostPropagation s.mounts s.rootfsPropagation b.mounts = .ok mp ∧
      s' = assemble s b c bl r mp := by
  rw [adjust_eq hi] at h
  -- an error in any of the four parts contradicts `h`; the case left has all four values
  revert h
  cases cdiAfter ext.injectCDI.isSome bad s.cdi b.cdiDevices <;>
    cases Resources.applyBlockIO ext.resolveBlockIO s.blockio b.blockioClass <;>
    cases Resources.applyRdt ext.resolveRdt s.rdt b.rdtClass <;>
    cases Mounts.apply ext.hostPropagation s.mounts s.rootfsPropagation b.mounts <;>
    intro h <;> cases h
  exact ⟨_, _, _, _, rfl, rfl, rfl, rfl, rfl⟩

theorem adjust_of_parts {s : Oci.Spec} {b : Api.Adjustment} {c bl r mp}
    (hc : cdiAfter ext.injectCDI.isSome bad s.cdi b.cdiDevices = .ok c)
    (hb : Resources.applyBlockIO ext.resolveBlockIO s.blockio b.blockioClass = .ok bl)
    (hr : Resources.applyRdt ext.resolveRdt s.rdt b.rdtClass = .ok r)
    (hm : Mounts.apply ext.hostPropagation s.mounts s.rootfsPropagation b.mounts = .ok mp) :
    adjust ext s b = .ok (assemble s b c bl r mp) := by
  simp only [adjust_eq hi, hc, hb, hr, hm]

end Adjust

/-- **Weakening 2**: the device-cgroup allow rules of the combined application are among those
    of the sequential one. -/
def RulesSub (c s : List Oci.DeviceCgroup) : Prop := ∀ r ∈ c, r ∈ s

/-- Equality of every modelled field except the rootfs propagation, `c` = generator on the
    combined reply, `s` = sequential.  Structural equality, except: Go maps (`annotations`,
    `unified`) are compared through `lookup` (the models' convention for maps); **weakening 1**
    the environment is compared as a finite map NAME ↦ value (`EnvEq`) between two well-formed
    environments; **weakening 2** `devRules` by `RulesSub`. -/
structure SpecEqCore (c s : Oci.Spec) : Prop where
  annotations : MapEq c.annotations s.annotations
  args : c.args = s.args
  env : EnvEq c.env s.env
  envWF : Env.WF c.env ∧ Env.WF s.env
  rlimits : c.rlimits = s.rlimits
  oomScoreAdj : c.oomScoreAdj = s.oomScoreAdj
  mounts : c.mounts = s.mounts
  devices : c.devices = s.devices
  devRules : RulesSub c.devRules s.devRules
  cpu : c.cpu = s.cpu
  memory : c.memory = s.memory
  hugepages : c.hugepages = s.hugepages
  unified : MapEq c.unified s.unified
  pids : c.pids = s.pids
  blockio : c.blockio = s.blockio
  rdt : c.rdt = s.rdt
  cgroupsPath : c.cgroupsPath = s.cgroupsPath
  hooks : c.hooks = s.hooks
  cdi : c.cdi = s.cdi

/-- `SpecEqCore` and equal rootfs propagation: the spec equality of C03. -/
structure SpecEq (c s : Oci.Spec) : Prop extends SpecEqCore c s where
  rootfsPropagation : c.rootfsPropagation = s.rootfsPropagation

theorem specWF_parts (s : Oci.Spec) (h : SpecWF s) :
    NodupKeys Oci.Mount.destination s.mounts ∧ NodupKeys Oci.Device.path s.devices ∧ Env.WF s.env := by
  unfold SpecWF specWF at h
  simp only [Bool.and_eq_true, decide_eq_true_eq] at h
  obtain ⟨⟨⟨h1, h2⟩, h3⟩, h4⟩ := h
  refine ⟨h1, h2, ⟨?_, h4⟩⟩
  intro e he
  have := List.all_eq_true.1 h3 e he
  split at this
  · rename_i n v hs
    exact ⟨n, v, hs, by simpa using this⟩
  · cases this

/-- **The core of C03** (any starting spec `s0`; `as` = the plugins' adjustments in order;
    `Chain StepOk` = each satisfies the core guard and the three ledger facts hold: memory
    limit, block-I/O class and RDT class have a single setter; mounts may carry propagation
    options): if the sequential application succeeds with `sS` and `AdjustMounts` succeeds on
    the combined reply with `mp`, then `Adjust` succeeds on the combined reply, the result
    agrees with `sS` up to `SpecEqCore`, and the rootfs propagation is `Check.expectedRootfs`
    of the combined reply's mounts on one side, of each plugin's mounts in turn on the other. -/
theorem compose_core {ext : Externals} {bad : List Str}
    (hi : ext.injectCDI = some (recordingInjector bad) ∨ ext.injectCDI = none)
    (as : List NApi.Adjustment) (hc : Chain StepOk reply0 as)
    (s0 sS : Oci.Spec) (hs0 : SpecWF s0)
    (hseq : seqAdjust ext s0 (as.map toGen) = .ok sS)
    (mp : List Oci.Mount × Str)
    (hm : Mounts.apply ext.hostPropagation s0.mounts s0.rootfsPropagation
            (toGen (as.foldl replyStep reply0)).mounts = .ok mp) :
    ∃ sC, adjust ext s0 (toGen (as.foldl replyStep reply0)) = .ok sC ∧ SpecEqCore sC sS ∧
      sC.rootfsPropagation = Check.expectedRootfs s0.rootfsPropagation (toGen (as.foldl replyStep reply0)).mounts ∧
      sS.rootfsPropagation =
        as.foldl (fun r a => Check.expectedRootfs r (toGen a).mounts) s0.rootfsPropagation := by
  obtain ⟨hm0, hd0, he0⟩ := specWF_parts s0 hs0
  have hRn := replyInv_foldl as hc
  have hwf : ∀ a ∈ as, WFParts a := fun a ha =>
    wfParts a (Chain.forall (K := WellFormedCore) (fun _ _ h => h.wf) hc a ha)
  -- A field of the sequential result, given what one `adjust` writes into it.  `assemble` is a
  -- record literal, so for every field but the rootfs propagation the default `rfl` does.
  have sq {X : Type} (π : Oci.Spec → X) (G : X → NApi.Adjustment → X)
      (hG : ∀ s a c bl r mp, Mounts.apply ext.hostPropagation s.mounts s.rootfsPropagation (toGen a).mounts = .ok mp →
        π (assemble s (toGen a) c bl r mp) = G (π s) a := by intros; rfl) : π sS = as.foldl G (π s0) :=
    (seq_fold toGen π G (fun _ => True) (fun s a s' _ h => by
      obtain ⟨c, bl, r, mp, _, _, _, h4, e⟩ := adjust_ok_parts hi h
      exact ⟨e ▸ hG s a c bl r mp h4, trivial⟩) as s0 sS trivial hseq).1
  have sqE {X : Type} (π : Oci.Spec → X) (G : X → Api.Adjustment → Except GenError X)
      (hG : ∀ s b s', adjust ext s b = .ok s' → G (π s) b = .ok (π s')) :
      foldE (fun x a => G x (toGen a)) (π s0) as = .ok (π sS) :=
    foldE_map_adj G as _ ▸ seq_fieldE π G hG _ s0 sS hseq
  have s_cdi := sqE (·.cdi) (fun x b => cdiAfter ext.injectCDI.isSome bad x b.cdiDevices) fun s b s' h => by
    obtain ⟨c, bl, r, mp, h1, _, _, _, e⟩ := adjust_ok_parts hi h
    exact e ▸ h1
  have s_bio := sqE (·.blockio) (fun x b => Resources.applyBlockIO ext.resolveBlockIO x b.blockioClass) fun s b s' h => by
    obtain ⟨c, bl, r, mp, _, h2, _, _, e⟩ := adjust_ok_parts hi h
    exact e ▸ h2
  have s_rdt := sqE (·.rdt) (fun x b => Resources.applyRdt ext.resolveRdt x b.rdtClass) fun s b s' h => by
    obtain ⟨c, bl, r, mp, _, _, h3, _, e⟩ := adjust_ok_parts hi h
    exact e ▸ h3
  have s_mnt : sS.mounts = as.foldl mntG s0.mounts :=
    (seq_fold toGen (·.mounts) mntG (fun s => NodupKeys Oci.Mount.destination s.mounts) (fun s a s' hv h => by
      obtain ⟨c, bl, r, mp, _, _, _, h4, e⟩ := adjust_ok_parts hi h
      have h5 : s'.mounts = mntG s.mounts a := e ▸ mounts_apply_mounts _ _ _ a mp hv h4
      exact ⟨h5, h5 ▸ mntG_nodup _ a hv⟩) as s0 sS hm0 hseq).1
  have c_mnt := mounts_apply_mounts _ _ _ (as.foldl replyStep reply0) mp hm0 hm
  refine ⟨_, adjust_of_parts hi (fam_cdi as hc _ bad s0.cdi sS.cdi s_cdi) (fam_blockio as hc _ s0.blockio sS.blockio s_bio)
    (fam_rdt as hc _ s0.rdt sS.rdt s_rdt) hm, ?_, Mounts.apply_rootfs_eq hm, ?_⟩
  · have s_env := sq (·.env) envG
    have f_dev := fam_devices as hc (s0.devices, s0.devRules) hd0
    rw [← sq (fun s => (s.devices, s.devRules)) devG] at f_dev
    exact {
      annotations := sq (·.annotations) annG ▸ fam_annotations as hc _
      args := (fam_args as hc _).trans (sq (·.args) argsG).symm
      env := s_env ▸ fam_env as hc _ he0
      envWF := ⟨envG_wf _ _ he0 hRn.envKeys, s_env ▸ List.foldlRecOn as envG he0
        fun x hx a ha => envG_wf x a hx (hwf a ha).envKeys⟩
      rlimits := (fam_rlimits as hc _).trans (sq (·.rlimits) rlimitsG).symm
      oomScoreAdj := (fam_oom as hc _).trans (sq (·.oomScoreAdj) oomG).symm
      mounts := c_mnt.trans ((fam_mounts as hc _ hm0).trans s_mnt.symm)
      devices := f_dev.1
      devRules := f_dev.2
      cpu := (fam_cpu as hc _).trans (sq (·.cpu) cpuG).symm
      memory := (fam_memory as hc _).trans (sq (·.memory) memG).symm
      hugepages := (fam_hugepages as hc _).trans (sq (·.hugepages) hugeG).symm
      unified := sq (·.unified) unifiedG ▸ fam_unified as hc _
      pids := (fam_pids as hc _).trans (sq (·.pids) pidsG).symm
      -- the combined spec was assembled with the sequential values of the three fallible fields
      blockio := rfl
      rdt := rfl
      cdi := rfl
      cgroupsPath := (fam_cgroups as hc _).trans (sq (·.cgroupsPath) cgroupsG).symm
      hooks := (fam_hooks as hc _).trans (sq (·.hooks) hooksG).symm }
  · exact sq (·.rootfsPropagation) _ fun _ _ _ _ _ _ h4 => Mounts.apply_rootfs_eq h4

/-- **C03, assembled** (`WellFormed` includes: no propagation option): sequential ok ⇒
    combined ok and `SpecEq`. -/
theorem compose_main {ext : Externals} {bad : List Str}
    (hi : ext.injectCDI = some (recordingInjector bad) ∨ ext.injectCDI = none)
    (as : List NApi.Adjustment) (hc : Chain StepOk reply0 as)
    (hnp : ∀ a ∈ as, a.mounts.all noPropagation = true)
    (s0 sS : Oci.Spec) (hs0 : SpecWF s0)
    (hseq : seqAdjust ext s0 (as.map toGen) = .ok sS) :
    ∃ sC, adjust ext s0 (toGen (as.foldl replyStep reply0)) = .ok sC ∧ SpecEq sC sS := by
  obtain ⟨hm0, _, _⟩ := specWF_parts s0 hs0
  have hnR : (as.foldl replyStep reply0).mounts.all noPropagation = true :=
    List.all_eq_true.2 fun m hm => (mem_foldl_mounts as reply0 m hm).elim nofun
      fun ⟨a, ha, hma⟩ => List.all_eq_true.1 (hnp a ha) m hma
  have hm := mounts_apply_noprop ext.hostPropagation s0.mounts s0.rootfsPropagation
    (as.foldl replyStep reply0) hm0 hnR
  obtain ⟨sC, h1, h2, h3, h4⟩ := compose_core hi as hc s0 sS hs0 hseq _ hm
  refine ⟨sC, h1, h2, ?_⟩
  -- neither way raises the rootfs propagation
  rw [h3, h4, expectedRootfs_noprop _ _ hnR]
  exact (List.foldlRecOn as _ (motive := (· = s0.rootfsPropagation)) rfl fun b hb a ha => by
    rw [hb, expectedRootfs_noprop _ a (hnp a ha)]).symm

/-- **C03 with propagation options**: if both ways succeed, the specs agree up to
    `SpecEqCore` and the rootfs propagation of the combined application is ⊑ that of the
    sequential one (`RootfsLe`). -/
theorem compose_propagation {ext : Externals} {bad : List Str}
    (hi : ext.injectCDI = some (recordingInjector bad) ∨ ext.injectCDI = none)
    (as : List NApi.Adjustment) (hc : Chain StepOk reply0 as)
    (s0 sS sC : Oci.Spec) (hs0 : SpecWF s0)
    (hseq : seqAdjust ext s0 (as.map toGen) = .ok sS)
    (hcomb : adjust ext s0 (toGen (as.foldl replyStep reply0)) = .ok sC) :
    SpecEqCore sC sS ∧ RootfsLe sC.rootfsPropagation sS.rootfsPropagation := by
  obtain ⟨c, bl, r, mp, _, _, _, hmp, _⟩ := adjust_ok_parts hi hcomb
  obtain ⟨sC', h1, h2, h3, h4⟩ := compose_core hi as hc s0 sS hs0 hseq mp hmp
  rw [hcomb] at h1
  cases h1
  refine ⟨h2, ?_⟩
  rw [h3, h4]
  exact expectedRootfs_reply_le as _

theorem run_chain (c0 : NApi.Container) (rs : List (Result.Plugin × Option Result.Response))
    (st' : Result.State) (h : Result.run Result.Quirks.fixed (Result.initCreate c0) rs = .ok st')
    (hwf : ∀ a ∈ adjsOf rs, WellFormedCore a) :
    st'.reply = (adjsOf rs).foldl replyStep reply0 ∧ Chain StepOk reply0 (adjsOf rs) := by
  refine ⟨run_reply rs (Result.initCreate c0) st' c0.id rfl h, ?_⟩
  have h1 := run_ledgerOk c0 rs st' h
  have h2 : Chain (fun _ a => WellFormedCore a) reply0 (adjsOf rs) := Chain.of_forall hwf
  exact Chain.mono (fun R a hh => ⟨hh.2, hh.1⟩) (Chain.and h2 h1)

section Converse

/-- the sequential application succeeds when its three fallible folds do (no propagation
    options: `AdjustMounts` cannot fail) -/
theorem seq_of_parts {ext : Externals} {bad : List Str}
    (hi : ext.injectCDI = some (recordingInjector bad) ∨ ext.injectCDI = none)
    (as : List NApi.Adjustment) (hnp : ∀ a ∈ as, a.mounts.all noPropagation = true)
    (s : Oci.Spec) (hm : NodupKeys Oci.Mount.destination s.mounts)
    (zc : List Str) (zb : Option Nat) (zr : Option Str)
    (h1 : foldE (cdiG ext.injectCDI.isSome bad) s.cdi as = .ok zc)
    (h2 : foldE (blockioG ext.resolveBlockIO) s.blockio as = .ok zb)
    (h3 : foldE (rdtG ext.resolveRdt) s.rdt as = .ok zr) :
    ∃ sS, seqAdjust ext s (as.map toGen) = .ok sS := by
  induction as generalizing s with
  | nil => exact ⟨s, rfl⟩
  | cons a rest ih =>
    obtain ⟨c, e1, h1⟩ := foldE_cons_ok.1 h1
    obtain ⟨bl, e2, h2⟩ := foldE_cons_ok.1 h2
    obtain ⟨r, e3, h3⟩ := foldE_cons_ok.1 h3
    have hadj := adjust_of_parts hi e1 e2 e3
      (mounts_apply_noprop ext.hostPropagation s.mounts s.rootfsPropagation a hm (hnp a (by simp)))
    simp only [List.map_cons, seqAdjust, hadj]
    exact ih (fun b hb => hnp b (List.mem_cons_of_mem _ hb)) _ (mntG_nodup _ a hm) h1 h2 h3

/-- **combined ok ⇒ sequential ok** (no propagation options; uses the ledger's single setter of
    the block-I/O and RDT class) -/
theorem compose_converse {ext : Externals} {bad : List Str}
    (hi : ext.injectCDI = some (recordingInjector bad) ∨ ext.injectCDI = none)
    (as : List NApi.Adjustment) (hc : Chain StepOk reply0 as)
    (hnp : ∀ a ∈ as, a.mounts.all noPropagation = true)
    (s0 sC : Oci.Spec) (hs0 : SpecWF s0)
    (hcomb : adjust ext s0 (toGen (as.foldl replyStep reply0)) = .ok sC) :
    ∃ sS, seqAdjust ext s0 (as.map toGen) = .ok sS := by
  obtain ⟨hm0, _, _⟩ := specWF_parts s0 hs0
  obtain ⟨c, bl, r, mp, p1, p2, p3, _, _⟩ := adjust_ok_parts hi hcomb
  have hR := replyInv_reply0
  obtain ⟨y1, a1, b1⟩ := foldE_conv (cdiG ext.injectCDI.isSome bad) ReplyInv StepOk replyInv_step
    (fun x y1 R a _ _ h => (cdiAfter_append_iff _ _ x y1 R.cdiDevices a.cdiDevices).1 h) as reply0 s0.cdi c hR hc p1
  obtain ⟨y2, a2, b2⟩ := foldE_conv (blockioG ext.resolveBlockIO) ReplyInv StepOk replyInv_step
    (fun x y1 R a hR hs h => blockioG_conv _ x y1 R a hR.hasLinux hs.blockio h) as reply0 s0.blockio bl hR hc p2
  obtain ⟨y3, a3, b3⟩ := foldE_conv (rdtG ext.resolveRdt) ReplyInv StepOk replyInv_step
    (fun x y1 R a hR hs h => rdtG_conv _ x y1 R a hR.hasLinux hs.rdt h) as reply0 s0.rdt r hR hc p3
  rw [cdiG_reply0] at a1
  cases a1; cases a2; cases a3
  exact seq_of_parts hi as hnp s0 hm0 c bl r b1 b2 b3

end Converse

end Nri.Compose
