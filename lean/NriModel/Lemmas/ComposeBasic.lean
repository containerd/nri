/-
Bridges between the two models' vocabularies for the removal marker (`NApi.isMarked` returns
the pair, `Api.isMarked`/`Api.stripMarker` the components), what `keyOk` gives, and small list
lemmas shared by the keyed families of C03.
-/
import NriModel.Lemmas.ComposeSeq

namespace Nri.Compose
open Nri Nri.Generate

theorem isMarked_cons (c : Char) (cs : Str) : Api.isMarked (c :: cs) = decide (c = '-') := by
  by_cases h : c = '-'
  · subst h; rfl
  · unfold Api.isMarked; split <;> simp_all

theorem stripMarker_cons (c : Char) (cs : Str) :
    Api.stripMarker (c :: cs) = if c = '-' then cs else c :: cs := by
  by_cases h : c = '-'
  · subst h; rfl
  · unfold Api.stripMarker; split <;> simp_all

theorem isMarked_pair (k : Str) : NApi.isMarked k = (Api.stripMarker k, Api.isMarked k) := by
  cases k with
  | nil => rfl
  | cons c cs =>
    rw [NApi.isMarked, isMarked_cons, stripMarker_cons]
    by_cases h : c = '-' <;> simp [h]

@[simp] theorem isMarked_snd (k : Str) : (NApi.isMarked k).2 = Api.isMarked k := by rw [isMarked_pair]

@[simp] theorem clearMarker_eq (k : Str) : NApi.clearMarker k = Api.stripMarker k := by
  cases k with
  | nil => rfl
  | cons c cs => rw [NApi.clearMarker, stripMarker_cons]

theorem isMarked_iff (k : Str) : Api.isMarked k = true ↔ k = '-' :: Api.stripMarker k := by
  cases k with
  | nil => simp [Api.isMarked]
  | cons c cs =>
    rw [isMarked_cons, stripMarker_cons]
    by_cases h : c = '-' <;> simp [h]

theorem isMarked_cons_dash (k : Str) : Api.isMarked ('-' :: k) = true := rfl
theorem stripMarker_cons_dash (k : Str) : Api.stripMarker ('-' :: k) = k := rfl

theorem keyOk_iff (k : Str) :
    keyOk k = true ↔ Api.isMarked (Api.stripMarker k) = false := by
  unfold keyOk
  rw [clearMarker_eq]
  cases Api.stripMarker k with
  | nil => simp [Api.isMarked]
  | cons c cs => simp [isMarked_cons]

theorem keysOk_iff (keys : List Str) : keysOk keys = true ↔ ∀ k ∈ keys, keyOk k = true := by
  unfold keysOk; simp

theorem mem_delKeys (keys : List Str) (k : Str) :
    k ∈ Result.delKeys keys ↔ ∃ x ∈ keys, Api.isMarked x = true ∧ Api.stripMarker x = k := by
  rw [Result.mem_delKeys_iff]
  constructor
  · rintro ⟨x, hx, h⟩
    rw [isMarked_pair] at h
    simp only [Prod.mk.injEq] at h
    exact ⟨x, hx, h.2, h.1⟩
  · rintro ⟨x, hx, h1, h2⟩
    exact ⟨x, hx, by rw [isMarked_pair, h1, h2]⟩

theorem delKeys_contains (keys : List Str) (k : Str) :
    (Result.delKeys keys).contains k = keys.any (fun x => Api.isMarked x && Api.stripMarker x == k) := by
  rw [Bool.eq_iff_iff]
  simp only [List.contains_iff_mem, List.any_eq_true, Bool.and_eq_true, beq_iff_eq]
  rw [mem_delKeys]

theorem delKeys_unmarked (keys : List Str) (hk : ∀ k ∈ keys, keyOk k = true) (k : Str)
    (h : k ∈ Result.delKeys keys) : Api.isMarked k = false := by
  obtain ⟨x, hx, _, h2⟩ := (mem_delKeys keys k).1 h
  have := (keyOk_iff x).1 (hk x hx)
  rw [h2] at this
  exact this

theorem pick_const_any {ε β : Type} (q : ε → Bool) (L : List ε) (c : β) (d : Option β) :
    pick (lastMatch q L) (fun _ => c) d = if L.any q then some c else d := by
  rw [any_eq_lastMatch_isSome]
  cases lastMatch q L <;> rfl

theorem lastMatch_congr {ε : Type} {q q' : ε → Bool} (L : List ε) (h : ∀ e ∈ L, q e = q' e) :
    lastMatch q L = lastMatch q' L := by
  induction L with
  | nil => rfl
  | cons e r ih =>
    simp only [lastMatch]
    rw [ih (fun x hx => h x (List.mem_cons_of_mem _ hx)), h e (by simp)]

end Nri.Compose
