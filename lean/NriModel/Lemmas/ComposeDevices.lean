/-
C03, devices: the device LIST of "generator on the combined reply" equals that of the
sequential application (given distinct original paths), and the device-cgroup allow rules of
the combined application are among those of the sequential one (the generator never retracts
the rule of a device a later plugin removes or replaces — finding C03:devRules-stale).
-/
import NriModel.Lemmas.ComposeKeyed
import NriModel.Lemmas.ComposeScalars

namespace Nri.Compose
open Nri Nri.Generate

def devsOf (a : NApi.Adjustment) : List NApi.Device := if a.hasLinux then a.devices else []

def devConv (d : NApi.Device) : Oci.Device := (toGenDevice d).toOCI
def devRule (d : NApi.Device) : Oci.DeviceCgroup := (toGenDevice d).cgroupRule

/-- `AdjustDevices` on `(Linux.Devices, Linux.Resources.Devices)` -/
def devG (st : Devices.State) (a : NApi.Adjustment) : Devices.State :=
  Devices.apply st (toGen a).linuxDevices

/-- combined vs sequential: same device list, rules of the combined among the sequential -/
def DevEq (c s : Devices.State) : Prop := c.1 = s.1 ∧ ∀ r ∈ c.2, r ∈ s.2

theorem toGen_linuxDevices (a : NApi.Adjustment) : (toGen a).linuxDevices = (devsOf a).map toGenDevice := by
  unfold Api.Adjustment.linuxDevices toGen devsOf; cases a.hasLinux <;> rfl

theorem devsOf_step (R a : NApi.Adjustment) (hR : R.hasLinux = true) :
    devsOf (replyStep R a) = keyedStep (·.path) (devsOf R) (devsOf a) := by
  unfold devsOf replyStep
  simp only [hR, if_true]
  cases a.hasLinux
  · simp [keyedStep_nil]
  · simp

theorem devG_fst (st : Devices.State) (a : NApi.Adjustment) (h : NodupKeys Oci.Device.path st.1) :
    (devG st a).1 = twoPass Oci.Device.path (fun d : NApi.Device => d.path) devConv st.1 (devsOf a) := by
  unfold devG
  rw [Devices.apply_fst _ _ h, toGen_linuxDevices]
  exact gTwoPass_map Oci.Device.path Api.LinuxDevice.path Api.LinuxDevice.toOCI toGenDevice (fun _ _ => rfl) _ h

theorem devG_snd (st : Devices.State) (a : NApi.Adjustment) :
    (devG st a).2 = st.2 ++ setsOf (fun d : NApi.Device => d.path) devRule (devsOf a) := by
  unfold devG
  rw [Devices.apply_snd, toGen_linuxDevices]
  simp only [setsOf, List.filter_map, List.map_map]
  rfl

theorem devG_nodup (st : Devices.State) (a : NApi.Adjustment) (h : NodupKeys Oci.Device.path st.1) :
    NodupKeys Oci.Device.path (devG st a).1 := by
  unfold devG
  rw [Devices.apply_fst _ _ h]
  exact nodup_twoPass Oci.Device.path Api.LinuxDevice.path Api.LinuxDevice.toOCI (fun _ _ => rfl) _ h

theorem devG_step (x : Devices.State) (R a : NApi.Adjustment) (hx : NodupKeys Oci.Device.path x.1)
    (hR : R.hasLinux = true) (hk : ∀ k ∈ a.devices.map (·.path), keyOk k = true) :
    DevEq (devG x (replyStep R a)) (devG (devG x R) a) := by
  have hk' : ∀ k ∈ (devsOf a).map (·.path), keyOk k = true := by
    unfold devsOf; cases a.hasLinux
    · simp
    · simpa using hk
  constructor
  · rw [devG_fst _ _ hx, devG_fst _ _ (devG_nodup x R hx), devG_fst _ _ hx, devsOf_step R a hR]
    exact twoPass_keyedStep (fun d : NApi.Device => d.path) Oci.Device.path devConv (fun _ _ => rfl) _ _ _ hk'
  · intro r hr
    rw [devG_snd, devG_snd]
    rw [devG_snd, devsOf_step R a hR] at hr
    simp only [List.mem_append] at hr ⊢
    rcases hr with hr | hr
    · exact .inl (.inl hr)
    · rcases mem_setsOf_keyedStep _ _ _ _ _ hr with h | h
      · exact .inl (.inr h)
      · exact .inr h

theorem devG_cong (x y : Devices.State) (a : NApi.Adjustment) (hx : NodupKeys Oci.Device.path x.1)
    (hy : NodupKeys Oci.Device.path y.1) (h : DevEq x y) : DevEq (devG x a) (devG y a) := by
  constructor
  · rw [devG_fst _ _ hx, devG_fst _ _ hy, h.1]
  · intro r hr
    rw [devG_snd] at hr ⊢
    simp only [List.mem_append] at hr ⊢
    rcases hr with hr | hr
    · exact .inl (h.2 r hr)
    · exact .inr hr

end Nri.Compose
