/-
C03, the process environment, compared as a finite map NAME ↦ value (`Env.lookup`): a
variable re-set by a later plugin is replaced in place by the sequential application but
re-appended by the combined reply, so the ORDER of `environ` legitimately differs.
-/
import NriModel.Lemmas.ComposeKeyed
import NriModel.Lemmas.ComposeScalars

namespace Nri.Compose
open Nri Nri.Generate

def envG (x : List Str) (a : NApi.Adjustment) : List Str := Env.apply x (toGen a).env

def EnvEq (c s : List Str) : Prop := ∀ k, k ≠ [] → Env.lookup c k = Env.lookup s k

def EnvKeysOk (a : NApi.Adjustment) : Prop := ∀ e ∈ a.env, '=' ∉ Api.stripMarker e.key

/-- what `AdjustEnv` with the entries `L` leaves under name `k`, given what was there -/
def envEffect (L : List NApi.KeyValue) (k : Str) (d : Option Str) : Option Str :=
  match lastMatch (fun e : NApi.KeyValue => !Api.isMarked e.key && e.key == k) L with
  | some e => some e.value
  | none => if delOf (fun e : NApi.KeyValue => e.key) L k then none else d

theorem lastMatch_map {ε ε' : Type} (q : ε → Bool) (f : ε' → ε) (L : List ε') :
    lastMatch q (L.map f) = (lastMatch (fun e => q (f e)) L).map f := by
  rw [lastMatch_eq_find?, lastMatch_eq_find?, ← List.map_reverse, List.find?_map]
  rfl

theorem lookup_envG (x : List Str) (a : NApi.Adjustment) (hwf : Env.WF x) (hk : EnvKeysOk a)
    (k : Str) (hne : k ≠ []) :
    Env.lookup (envG x a) k = envEffect a.env k (Env.lookup x k) := by
  unfold envG envEffect
  rw [toGen_env, Env.lookup_apply x _ hwf (fun e hm => ?_) k hne, requested, lastMatch_map, List.any_map]
  · show pick ((lastMatch (fun e : NApi.KeyValue => !Api.isMarked e.key && e.key == k) a.env).map toGenKV) _ _ = _
    cases lastMatch (fun e : NApi.KeyValue => !Api.isMarked e.key && e.key == k) a.env <;> rfl
  · obtain ⟨y, hy, rfl⟩ := List.mem_map.1 hm
    exact hk y hy

theorem lastMatch_sets_keyedStep {ε : Type} (rawKey : ε → Str) (R a : List ε) (k : Str) :
    lastMatch (fun e => !Api.isMarked (rawKey e) && rawKey e == k) (keyedStep rawKey R a) =
      match lastMatch (fun e => !Api.isMarked (rawKey e) && rawKey e == k) a with
      | some x => some x
      | none => if delOf rawKey a k then none
                else lastMatch (fun e => !Api.isMarked (rawKey e) && rawKey e == k) R := by
  rw [keyedStep_eq, lastMatch_append, lastMatch_append, Env.lastMatch_filter, Env.lastMatch_filter]
  have h3 : lastMatch (fun e => !Api.isMarked (rawKey e) && rawKey e == k) (loneOf rawKey a) = none := by
    rw [lastMatch_none_iff]
    intro e he
    simp [(mem_loneOf rawKey he).2]
  -- an entry that sets `k` survives the filter iff `k` is not deleted by `a`
  have h1 : ∀ e ∈ R, (!delOf rawKey a (rawKey e) && (!Api.isMarked (rawKey e) && rawKey e == k)) =
      (!delOf rawKey a k && (!Api.isMarked (rawKey e) && rawKey e == k)) := by
    intro e _
    cases hq : (!Api.isMarked (rawKey e) && rawKey e == k)
    · rw [Bool.and_false, Bool.and_false]
    · simp only [Bool.and_eq_true, beq_iff_eq] at hq
      rw [hq.2]
  rw [h3, lastMatch_congr a fun e _ => Bool.and_self_left .., lastMatch_congr R h1, lastMatch_and_const]
  cases delOf rawKey a k <;> rfl

theorem envEffect_step (R a : List NApi.KeyValue) (hk : ∀ k ∈ a.map (·.key), keyOk k = true)
    (k : Str) (d : Option Str) :
    envEffect (keyedStep (·.key) R a) k d = envEffect a k (envEffect R k d) := by
  unfold envEffect
  rw [lastMatch_sets_keyedStep (fun e : NApi.KeyValue => e.key), delOf_keyedStep (fun e : NApi.KeyValue => e.key) R a hk]
  cases hs : lastMatch (fun e : NApi.KeyValue => !Api.isMarked e.key && e.key == k) a with
  | some e => rfl
  | none =>
    have hset : setOf (fun e : NApi.KeyValue => e.key) a k = false := by
      unfold setOf
      rw [any_eq_lastMatch_isSome, hs]; rfl
    simp only [hset, Bool.not_false, Bool.and_true]
    cases hd : delOf (fun e : NApi.KeyValue => e.key) a k
    · simp
    · simp

theorem envG_wf (x : List Str) (a : NApi.Adjustment) (hwf : Env.WF x) (hk : EnvKeysOk a) :
    Env.WF (envG x a) := by
  unfold envG
  apply Env.wf_apply x _ hwf
  intro e hm
  rw [toGen_env] at hm
  obtain ⟨y, hy, rfl⟩ := List.mem_map.1 hm
  exact hk y hy

theorem envKeysOk_step (R a : NApi.Adjustment) (hR : EnvKeysOk R) (ha : EnvKeysOk a) :
    EnvKeysOk (replyStep R a) := by
  intro e he
  have he : e ∈ keyedStep (·.key) R.env a.env := he
  exact (mem_keyedStep _ he).elim (hR e) (ha e)

theorem envG_step (x : List Str) (R a : NApi.Adjustment) (hx : Env.WF x) (hR : EnvKeysOk R)
    (ha : EnvKeysOk a) (hk : ∀ k ∈ a.env.map (·.key), keyOk k = true) :
    EnvEq (envG x (replyStep R a)) (envG (envG x R) a) := by
  intro k hne
  rw [lookup_envG x _ hx (envKeysOk_step R a hR ha) k hne,
    lookup_envG _ a (envG_wf x R hx hR) ha k hne, lookup_envG x R hx hR k hne]
  exact envEffect_step R.env a.env hk k _

theorem envG_cong (x y : List Str) (a : NApi.Adjustment) (hx : Env.WF x) (hy : Env.WF y)
    (ha : EnvKeysOk a) (h : EnvEq x y) : EnvEq (envG x a) (envG y a) := by
  intro k hne
  rw [lookup_envG x a hx ha k hne, lookup_envG y a hy ha k hne, h k hne]

end Nri.Compose
