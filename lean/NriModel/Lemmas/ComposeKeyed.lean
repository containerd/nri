/-
C03, the keyed list families (devices, mounts; the environment uses the effect part only).

Generator side: under distinct keys the two passes "all removals, then all sets" of
`AdjustDevices`/`AdjustMounts` are `putAll (l.filter (not removed)) sets`, where
`putAll l S` moves every key of `S` to the end in order (`RemoveX` = filter, `AddX` = append).
`putAll` commutes with filters on keys, absorbs a pre-filter of keys it sets anyway, and splits
over `++`.

Collector side: what `keyedStep R a` (the reply list after one response) removes and sets.

Composition (`twoPass_keyedStep`): `twoPass x (keyedStep R a) = twoPass (twoPass x R) a` as LISTS — no
ledger fact is needed, only `keyOk` of the response's keys (a removal marker of the reply must not itself
be "removed" by a key `--k`).
-/
import NriModel.Lemmas.ComposeBasic

namespace Nri.Compose
open Nri Nri.Generate

section PutAll
variable {α : Type} (key : α → Str)

def putAll (l : List α) (S : List α) : List α :=
  S.foldl (fun l y => l.filter (fun x => key x != key y) ++ [y]) l

theorem putAll_append (l A B : List α) : putAll key l (A ++ B) = putAll key (putAll key l A) B := by
  simp [putAll, List.foldl_append]

theorem putAll_filter (q : Str → Bool) (l S : List α) :
    (putAll key l S).filter (fun x => q (key x)) =
      putAll key (l.filter (fun x => q (key x))) (S.filter (fun x => q (key x))) := by
  induction S generalizing l with
  | nil => rfl
  | cons y r ih =>
    simp only [putAll, List.foldl_cons] at ih ⊢
    rw [ih]
    by_cases hq : q (key y) = true
    · simp only [List.filter_cons, hq, if_true, List.foldl_cons, List.filter_append, List.filter_nil,
        List.filter_filter]
      congr 2
      apply List.filter_congr
      intro x _
      exact Bool.and_comm _ _
    · have hq' : q (key y) = false := by simpa using hq
      simp only [List.filter_cons, hq', Bool.false_eq_true, if_false, List.filter_append,
        List.filter_nil, List.append_nil, List.filter_filter]
      congr 1
      apply List.filter_congr
      intro x _
      by_cases hx : key x = key y
      · rw [hx, hq']; simp
      · have : (key x != key y) = true := by simpa using hx
        simp [this]

theorem putAll_absorb (q : Str → Bool) (l S : List α)
    (hq : ∀ k, q k = false → ∃ y ∈ S, key y = k) :
    putAll key (l.filter (fun x => q (key x))) S = putAll key l S := by
  induction S generalizing l q with
  | nil =>
    simp only [putAll, List.foldl_nil]
    apply List.filter_eq_self.2
    intro x _
    cases h : q (key x)
    · obtain ⟨y, hy, _⟩ := hq _ h; cases hy
    · rfl
  | cons y r ih =>
    simp only [putAll, List.foldl_cons] at ih ⊢
    -- both sides continue from lists that agree after dropping key y
    let q' : Str → Bool := fun k => q k || k == key y
    have h1 : List.filter (fun x => key x != key y) (List.filter (fun x => q (key x)) l) ++ [y] =
        List.filter (fun x => q' (key x)) (List.filter (fun x => key x != key y) l ++ [y]) := by
      simp only [List.filter_append, List.filter_filter, List.filter_cons, List.filter_nil, q']
      simp only [beq_self_eq_true, Bool.or_true, if_true]
      congr 1
      apply List.filter_congr
      intro x _
      by_cases hx : key x = key y
      · simp [hx]
      · have : (key x == key y) = false := by simpa using hx
        simp [this, bne, Bool.and_comm]
    rw [h1]
    apply ih q'
    intro k hk
    simp only [q', Bool.or_eq_false_iff, beq_eq_false_iff_ne] at hk
    obtain ⟨z, hz, hzk⟩ := hq k hk.1
    rcases List.mem_cons.mp hz with rfl | hz
    · exact absurd hzk.symm hk.2
    · exact ⟨z, hz, hzk⟩

theorem mem_putAll {l S : List α} {x : α} (h : x ∈ putAll key l S) : x ∈ l ∨ x ∈ S := by
  induction S generalizing l with
  | nil => exact .inl h
  | cons y r ih =>
    simp only [putAll, List.foldl_cons] at h ih
    rcases ih h with h | h
    · rcases List.mem_append.mp h with h | h
      · exact .inl (List.mem_filter.mp h).1
      · simp only [List.mem_singleton] at h; exact .inr (by simp [h])
    · exact .inr (List.mem_cons_of_mem _ h)

theorem putAll_perm {l l' : List α} (S : List α) (h : l.Perm l') : (putAll key l S).Perm (putAll key l' S) := by
  induction S generalizing l l' with
  | nil => exact h
  | cons y r ih =>
    simp only [putAll, List.foldl_cons] at ih ⊢
    exact ih ((h.filter _).append_right _)

theorem nodupKeys_filter {l : List α} (p : α → Bool) (h : NodupKeys key l) : NodupKeys key (l.filter p) := by
  unfold NodupKeys at *
  exact (List.filter_sublist.map key).nodup h

theorem nodupKeys_putAll {l : List α} (S : List α) (h : NodupKeys key l) : NodupKeys key (putAll key l S) := by
  induction S generalizing l with
  | nil => exact h
  | cons y r ih =>
    simp only [putAll, List.foldl_cons] at ih ⊢
    apply ih
    unfold NodupKeys
    rw [List.map_append, List.nodup_append]
    refine ⟨nodupKeys_filter key _ h, by simp, ?_⟩
    intro a ha b hb
    simp only [List.map_cons, List.map_nil, List.mem_singleton] at hb
    obtain ⟨z, hz, rfl⟩ := List.mem_map.1 ha
    have := (List.mem_filter.1 hz).2
    rw [hb]; simpa using this

theorem putAll_eq_filter_append (l S : List α) (h : (S.map key).Nodup) :
    putAll key l S = l.filter (fun x => !(S.map key).contains (key x)) ++ S := by
  induction S generalizing l with
  | nil =>
    rw [List.append_nil]
    exact (List.filter_eq_self.2 fun _ _ => rfl).symm
  | cons y r ih =>
    simp only [List.map_cons, List.nodup_cons] at h
    simp only [putAll, List.foldl_cons] at ih ⊢
    rw [ih _ h.2, List.filter_append, List.filter_filter]
    have hy : (!(r.map key).contains (key y)) = true := by simpa using h.1
    simp only [List.filter_cons, List.filter_nil, hy, if_true, List.append_assoc, List.singleton_append]
    congr 1
    apply List.filter_congr
    intro x _
    rw [List.map_cons, List.contains_cons, Bool.not_or, Bool.and_comm]
    rfl

end PutAll

section TwoPass
variable {α ε : Type} (key : α → Str) (rawKey : ε → Str) (conv : ε → α)

def delOf (L : List ε) (k : Str) : Bool :=
  L.any fun e => Api.isMarked (rawKey e) && Api.stripMarker (rawKey e) == k

def setOf (L : List ε) (k : Str) : Bool :=
  L.any fun e => !Api.isMarked (rawKey e) && rawKey e == k

def setsOf (L : List ε) : List α := (L.filter fun e => !Api.isMarked (rawKey e)).map conv

def twoPass (l : List α) (L : List ε) : List α :=
  putAll key (l.filter fun x => !delOf rawKey L (key x)) (setsOf rawKey conv L)

theorem twoPass_nil (l : List α) : twoPass key rawKey conv l [] = l := by
  simp [twoPass, delOf, setsOf, putAll]

theorem twoPass_perm {l l' : List α} (L : List ε) (h : l.Perm l') :
    (twoPass key rawKey conv l L).Perm (twoPass key rawKey conv l' L) :=
  putAll_perm key _ (h.filter _)

theorem nodupKeys_twoPass {l : List α} (L : List ε) (h : NodupKeys key l) :
    NodupKeys key (twoPass key rawKey conv l L) :=
  nodupKeys_putAll key _ (nodupKeys_filter key _ h)

theorem removeFirst_eq_filter {l : List α} (h : NodupKeys key l) (k : Str) :
    removeFirst key k l = l.filter (fun x => key x != k) := by
  induction l with
  | nil => rfl
  | cons y r ih =>
    unfold NodupKeys at h ih
    simp only [List.map_cons, List.nodup_cons] at h
    unfold removeFirst
    by_cases hy : key y = k
    · simp only [hy, if_true, List.filter_cons, bne_self_eq_false, Bool.false_eq_true, if_false]
      symm
      apply List.filter_eq_self.2
      intro x hx
      have : key x ≠ k := by
        intro hxk; apply h.1; exact List.mem_map.mpr ⟨x, hx, by rw [hxk, hy]⟩
      simpa using this
    · have : (key y != k) = true := by simpa using hy
      simp only [hy, if_false, List.filter_cons, this, if_true, ih h.2]

theorem gRemovals_eq_filter {l : List α} (L : List ε) (h : NodupKeys key l) :
    gRemovals key rawKey l L = l.filter (fun x => !delOf rawKey L (key x)) := by
  induction L generalizing l with
  | nil =>
    simp only [gRemovals, List.foldl_nil, delOf, List.any_nil, Bool.not_false]
    exact (List.filter_eq_self.2 (fun _ _ => rfl)).symm
  | cons e r ih =>
    simp only [gRemovals, List.foldl_cons] at ih ⊢
    cases hm : Api.isMarked (rawKey e)
    · rw [if_neg (by simp), ih h]
      simp [delOf, hm]
    · rw [if_pos rfl, ih (nodup_removeFirst key h), removeFirst_eq_filter key h, List.filter_filter]
      apply List.filter_congr
      intro x _
      simp only [delOf, List.any_cons, hm, Bool.true_and, Bool.not_or]
      rw [bne, BEq.comm, Bool.and_comm]

variable (hconv : ∀ e, Api.isMarked (rawKey e) = false → key (conv e) = rawKey e)

include hconv in
theorem gSets_eq_putAll {l : List α} (L : List ε) (h : NodupKeys key l) :
    gSets key rawKey conv l L = putAll key l (setsOf rawKey conv L) := by
  induction L generalizing l with
  | nil => rfl
  | cons e r ih =>
    simp only [gSets, List.foldl_cons] at ih ⊢
    by_cases hm : Api.isMarked (rawKey e) = true
    · simp only [hm, if_true]
      rw [ih h]
      simp [setsOf, hm]
    · have hm' : Api.isMarked (rawKey e) = false := by simpa using hm
      simp only [hm', Bool.false_eq_true, if_false]
      rw [ih (nodup_gSets_step key rawKey conv hconv hm' h), removeFirst_eq_filter key h]
      simp [setsOf, hm', putAll, hconv e hm']

include hconv in
theorem gTwoPass_eq {l : List α} (L : List ε) (h : NodupKeys key l) :
    gSets key rawKey conv (gRemovals key rawKey l L) L = twoPass key rawKey conv l L := by
  rw [gSets_eq_putAll key rawKey conv hconv L (nodup_gRemovals key rawKey L h), gRemovals_eq_filter key rawKey L h]
  rfl

theorem gTwoPass_map {ε' : Type} (f : ε' → ε)
    (hf : ∀ e, Api.isMarked (rawKey (f e)) = false → key (conv (f e)) = rawKey (f e))
    {l : List α} (L : List ε') (h : NodupKeys key l) :
    gSets key rawKey conv (gRemovals key rawKey l (L.map f)) (L.map f) =
      twoPass key (fun e => rawKey (f e)) (fun e => conv (f e)) l L := by
  simp only [gSets, gRemovals, List.foldl_map]
  exact gTwoPass_eq key _ _ hf L h

include hconv in
theorem setsOf_keys (L : List ε) (k : Str) :
    (∃ y ∈ setsOf rawKey conv L, key y = k) ↔ setOf rawKey L k = true := by
  unfold setsOf setOf
  simp only [List.mem_map, List.mem_filter, List.any_eq_true, Bool.and_eq_true, Bool.not_eq_true',
    beq_iff_eq]
  constructor
  · rintro ⟨y, ⟨e, ⟨he, hm⟩, rfl⟩, hk⟩
    exact ⟨e, he, hm, by rw [← hconv e hm, hk]⟩
  · rintro ⟨e, he, hm, hk⟩
    exact ⟨conv e, ⟨e, ⟨he, hm⟩, rfl⟩, by rw [hconv e hm, hk]⟩

end TwoPass

section KeyedStep
variable {ε : Type} (rawKey : ε → Str)

theorem keyedStep_nil (R : List ε) : keyedStep rawKey R [] = R := by
  simp [keyedStep, loneOf, Result.delKeys]

/-- keeping the last entry of each raw key does not change which keys are named -/
theorem dedup_any (q : Str → Bool) (L : List ε) :
    (L.foldr (fun x acc => if acc.any (fun y => rawKey y = rawKey x) then acc else x :: acc) []).any
        (fun e => q (rawKey e)) = L.any (fun e => q (rawKey e)) := by
  induction L with
  | nil => rfl
  | cons x r ih =>
    simp only [List.foldr_cons, List.any_cons]
    split
    · rename_i h
      rw [ih]
      obtain ⟨y, hy, hk⟩ := List.any_eq_true.1 h
      have hk : rawKey y = rawKey x := by simpa using hk
      cases hq : q (rawKey x)
      · simp
      · have : (r.any fun e => q (rawKey e)) = true := by
          rw [← ih]
          exact List.any_eq_true.2 ⟨y, hy, by rw [hk, hq]⟩
        simp [this]
    · simp only [List.any_cons, ih]

theorem dedup_sublist (L : List ε) :
    (L.foldr (fun x acc => if acc.any (fun y => rawKey y = rawKey x) then acc else x :: acc) []).Sublist L := by
  induction L with
  | nil => exact .slnil
  | cons y r ih =>
    simp only [List.foldr_cons]
    split
    · exact ih.cons _
    · exact ih.cons_cons _

theorem mem_loneOf {a : List ε} {x : ε} (h : x ∈ loneOf rawKey a) :
    x ∈ a ∧ Api.isMarked (rawKey x) = true := by
  have := (dedup_sublist rawKey _).subset h
  rw [List.mem_filter] at this
  simp only [isMarked_snd, Bool.and_eq_true] at this
  exact ⟨this.1, this.2.1⟩

theorem loneOf_any (q : Str → Bool) (a : List ε) :
    (loneOf rawKey a).any (fun e => q (rawKey e)) =
      a.any fun e => (Api.isMarked (rawKey e) && !setOf rawKey a (Api.stripMarker (rawKey e))) && q (rawKey e) := by
  have hmod (k : Str) : ((a.filter fun x => !Api.isMarked (rawKey x)).map rawKey).contains k = setOf rawKey a k := by
    rw [Bool.eq_iff_iff]
    simp [setOf, and_assoc]
  unfold loneOf
  rw [dedup_any rawKey q, List.any_filter]
  simp only [isMarked_snd, clearMarker_eq, hmod]

theorem delOf_eq_contains (a : List ε) (k : Str) :
    delOf rawKey a k = (Result.delKeys (a.map rawKey)).contains k := by
  rw [delKeys_contains, List.any_map]
  rfl

theorem keyedStep_eq (R a : List ε) :
    keyedStep rawKey R a =
      R.filter (fun x => !delOf rawKey a (rawKey x)) ++ a.filter (fun x => !Api.isMarked (rawKey x)) ++
        loneOf rawKey a := by
  simp only [keyedStep, delOf_eq_contains, isMarked_snd]

theorem mem_keyedStep {R a : List ε} {x : ε} (h : x ∈ keyedStep rawKey R a) : x ∈ R ∨ x ∈ a := by
  rw [keyedStep_eq] at h
  simp only [List.mem_append, List.mem_filter] at h
  rcases h with (h | h) | h
  · exact .inl h.1
  · exact .inr h.1
  · exact .inr (mem_loneOf rawKey h).1

theorem keyedStep_ne_nil (R a : List ε) (h : a ≠ []) : keyedStep rawKey R a ≠ [] := by
  intro he
  rw [keyedStep_eq, List.append_eq_nil_iff, List.append_eq_nil_iff] at he
  obtain ⟨⟨-, hm⟩, hl⟩ := he
  -- every entry is a removal marker, so nothing is set again and the first one is lone
  have hm : ∀ e ∈ a, Api.isMarked (rawKey e) = true := fun e he => by
    simpa using List.filter_eq_nil_iff.1 hm e he
  have hs (k : Str) : setOf rawKey a k = false := List.any_eq_false.2 fun e he => by simp [hm e he]
  obtain ⟨x, hx⟩ := List.exists_mem_of_ne_nil a h
  have := loneOf_any rawKey (fun _ => true) a
  rw [hl, List.any_nil, eq_comm, List.any_eq_false] at this
  simpa [hm x hx, hs] using this x hx

variable {α : Type} (key : α → Str) (conv : ε → α)

theorem setsOf_append (A B : List ε) :
    setsOf rawKey conv (A ++ B) = setsOf rawKey conv A ++ setsOf rawKey conv B := by
  simp [setsOf]

theorem delOf_append (A B : List ε) (k : Str) :
    delOf rawKey (A ++ B) k = (delOf rawKey A k || delOf rawKey B k) := by
  simp [delOf]

theorem setOf_append (A B : List ε) (k : Str) :
    setOf rawKey (A ++ B) k = (setOf rawKey A k || setOf rawKey B k) := by
  simp [setOf]

theorem setsOf_keyedStep (hconv : ∀ e, Api.isMarked (rawKey e) = false → key (conv e) = rawKey e)
    (R a : List ε) :
    setsOf rawKey conv (keyedStep rawKey R a) =
      (setsOf rawKey conv R).filter (fun y => !delOf rawKey a (key y)) ++ setsOf rawKey conv a := by
  have h3 : setsOf rawKey conv (loneOf rawKey a) = [] := by
    rw [setsOf, List.map_eq_nil_iff, List.filter_eq_nil_iff]
    intro x hx
    simp [(mem_loneOf rawKey hx).2]
  rw [keyedStep_eq, setsOf_append, setsOf_append, h3, List.append_nil]
  simp only [setsOf, List.filter_filter, Bool.and_self, List.filter_map]
  congr 2
  apply List.filter_congr
  intro x _
  cases hm : Api.isMarked (rawKey x)
  · simp [hconv x hm]
  · simp

theorem mem_setsOf_keyedStep {β : Type} (g : ε → β) (R a : List ε) (y : β)
    (h : y ∈ setsOf rawKey g (keyedStep rawKey R a)) : y ∈ setsOf rawKey g R ∨ y ∈ setsOf rawKey g a := by
  unfold setsOf at *
  simp only [List.mem_map, List.mem_filter] at *
  obtain ⟨e, ⟨he, hm⟩, rfl⟩ := h
  exact (mem_keyedStep rawKey he).imp (fun he => ⟨e, ⟨he, hm⟩, rfl⟩) (fun he => ⟨e, ⟨he, hm⟩, rfl⟩)

theorem delOf_keyedStep (R a : List ε) (hk : ∀ k ∈ a.map rawKey, keyOk k = true) (k : Str) :
    delOf rawKey (keyedStep rawKey R a) k =
      (delOf rawKey R k || (delOf rawKey a k && !setOf rawKey a k)) := by
  -- a removal marker of the reply is never dropped: what the response removes is not itself marked
  have hu (j : Str) (hj : Api.isMarked j = true) : delOf rawKey a j = false := by
    rw [Bool.eq_false_iff, delOf_eq_contains]
    intro hc
    rw [delKeys_unmarked _ hk j (List.contains_iff_mem.1 hc)] at hj
    cases hj
  have h1 : delOf rawKey (R.filter fun x => !delOf rawKey a (rawKey x)) k = delOf rawKey R k := by
    rw [delOf, delOf, List.any_filter]
    congr 1
    funext e
    cases hm : Api.isMarked (rawKey e)
    · simp
    · simp [hu _ hm]
  have h2 : delOf rawKey (a.filter fun x => !Api.isMarked (rawKey x)) k = false := by
    rw [delOf, List.any_filter]
    exact List.any_eq_false.2 fun e _ => by cases Api.isMarked (rawKey e) <;> simp
  have h3 : delOf rawKey (loneOf rawKey a) k = (delOf rawKey a k && !setOf rawKey a k) := by
    rw [delOf, loneOf_any rawKey (fun r => Api.isMarked r && Api.stripMarker r == k), Bool.eq_iff_iff]
    simp only [delOf, List.any_eq_true, Bool.and_eq_true, Bool.not_eq_true', beq_iff_eq]
    constructor
    · rintro ⟨e, he, ⟨_, hs⟩, hm, hk⟩
      exact ⟨⟨e, he, hm, hk⟩, hk ▸ hs⟩
    · rintro ⟨⟨e, he, hm, hk⟩, hs⟩
      exact ⟨e, he, ⟨hm, hk ▸ hs⟩, hm, hk⟩
  rw [keyedStep_eq, delOf_append, delOf_append, h1, h2, h3, Bool.or_false]

theorem twoPass_keyedStep (hconv : ∀ e, Api.isMarked (rawKey e) = false → key (conv e) = rawKey e)
    (x : List α) (R a : List ε) (hk : ∀ k ∈ a.map rawKey, keyOk k = true) :
    twoPass key rawKey conv x (keyedStep rawKey R a) =
      twoPass key rawKey conv (twoPass key rawKey conv x R) a := by
  unfold twoPass
  have habs : ∀ k, (!setOf rawKey a k) = false → ∃ y ∈ setsOf rawKey conv a, key y = k := by
    intro k hk
    rw [setsOf_keys key rawKey conv hconv]
    simpa using hk
  -- Both sides (first the right one) are brought to the form `putAll (… not set by `a`) (setsOf a)`: a pre-filter
  -- of the keys `a` sets anyway is absorbed and pushed inside; what is left compares which items of `x` survive.
  rw [← putAll_absorb key (fun k => !setOf rawKey a k) _ (setsOf rawKey conv a) habs]
  rw [putAll_filter key (fun k => !delOf rawKey a k), putAll_filter key (fun k => !setOf rawKey a k)]
  rw [setsOf_keyedStep rawKey key conv hconv, putAll_append]
  rw [← putAll_absorb key (fun k => !setOf rawKey a k) (putAll key _ _) (setsOf rawKey conv a) habs]
  rw [putAll_filter key (fun k => !setOf rawKey a k)]
  congr 2
  simp only [List.filter_filter]
  apply List.filter_congr
  intro y _
  rw [delOf_keyedStep rawKey R a hk]
  cases delOf rawKey R (key y) <;> cases delOf rawKey a (key y) <;> cases setOf rawKey a (key y) <;> rfl

end KeyedStep

end Nri.Compose
