/-
What C03 needs from the ownership ledger (C01): along a successful creation request a scalar
item that is never released — the memory limit, the block-I/O class, the RDT class — is set by
at most one plugin: every plugin that sets it claims it, so when a plugin sets it the reply
collected so far carries none.
The memory limit needs this for the EQUALITY of the specs (`AdjustResources` ignores a limit
of 0, so setters `5` then `0` would differ); the two classes need it only for "the combined
application succeeds ⇒ the sequential one does" (an earlier class the resolver rejects would
be masked by a later one).  Every other family composes without the ledger.
-/
import NriModel.Lemmas.ComposeScalars
import NriModel.Lemmas.ResultAbs

namespace Nri.Compose
open Nri Nri.NApi Nri.Result Nri.Ledger

theorem replyStep_hasLinux (R a : Adjustment) : (replyStep R a).hasLinux = R.hasLinux := rfl

theorem foldl_replyStep_hasLinux (as : List Adjustment) (R : Adjustment) :
    (as.foldl replyStep R).hasLinux = R.hasLinux := by
  induction as generalizing R with
  | nil => rfl
  | cons a rest ih => exact ih _

theorem mem_resSets (a : Adjustment) (r : Resources) (it : Item) (hl : a.hasLinux = true)
    (hr : a.resources = some r) (h : it ∈ resSets r) : it ∈ adjustSets a :=
  (mem_adjustSets_iff a it).2 (.inr (.inr (.inr (.inr (.inl ⟨hl, .inr (.inl ⟨r, hr, h⟩)⟩)))))

/-- `it` is a never-released item of the resources section and `xOf` reads the value an
    adjustment (or the reply) carries for it -/
structure Scalar {X : Type} (it : Item) (xOf : Adjustment → Option X) : Prop where
  mem : ∀ a, (xOf a).isSome → ∃ r, resOf a = some r ∧ it ∈ resSets r
  notRemoved : ∀ a, it ∉ removesAdj a
  step : ∀ R a, R.hasLinux = true → xOf (replyStep R a) = (xOf a).orElse fun _ => xOf R
  init : xOf reply0 = none

def Held {X : Type} (it : Item) (xOf : Adjustment → Option X) (st : State) : Prop :=
  (xOf st.reply).isSome → ∃ w, st.owners.owner (cidOf st.kind) it = some w

namespace Scalar
variable {X : Type} {it : Item} {xOf : Adjustment → Option X} (S : Scalar it xOf)
include S

theorem apply {st st1 : State} {p : Plugin} {r : Response} {id : Cid} (hk : st.kind = .create id)
    (hl : st.reply.hasLinux = true) (hh : Held it xOf st) (h : Result.apply Quirks.fixed st p r = .ok st1) :
    (∀ a, r.adjust = some a → (xOf a).isSome → xOf st.reply = none) ∧ Held it xOf st1 := by
  have L := apply_ledgered st p r
  have hset : ∀ a, r.adjust = some a → (xOf a).isSome → it ∈ setsOn true st.kind r id := fun a ha hs => by
    obtain ⟨r', hr, hm⟩ := S.mem a hs
    unfold resOf at hr
    split at hr
    · rename_i hl
      exact (mem_setsOn_iff ..).2 (.inl ⟨a, ha, hk, mem_resSets a r' it hl hr hm⟩)
    · cases hr
  have hrem : it ∉ removesOn st.kind r id := fun hm => by
    obtain ⟨a, _, _, hr⟩ := (mem_removesOn_iff ..).1 hm
    exact S.notRemoved a hr
  rw [Held, hk] at hh
  constructor
  · intro a ha hs
    cases hR : xOf st.reply with
    | none => rfl
    | some v =>
      obtain ⟨w, hw⟩ := hh (by rw [hR]; rfl)
      obtain ⟨e, he⟩ := L.fails id it w (hset a ha hs) hw hrem
      rw [he] at h; cases h
  · intro hs
    rw [apply_kind _ _ _ _ _ h, hk]
    rw [apply_reply st st1 p r id hk h] at hs
    cases ha : r.adjust with
    | none =>
      rw [ha] at hs
      obtain ⟨w, hw⟩ := hh hs
      exact ⟨w, L.keeps _ h _ _ w hw hrem⟩
    | some a =>
      rw [ha] at hs
      simp only [S.step _ a hl] at hs
      cases hx : xOf a with
      | some v => exact ⟨p, L.owns _ h _ _ (hset a ha (by rw [hx]; rfl))⟩
      | none =>
        rw [hx] at hs
        obtain ⟨w, hw⟩ := hh hs
        exact ⟨w, L.keeps _ h _ _ w hw hrem⟩

theorem run_free {st st' : State} {id : Cid} (rs : List (Plugin × Option Response))
    (hk : st.kind = .create id) (hl : st.reply.hasLinux = true) (hh : Held it xOf st)
    (h : run Quirks.fixed st rs = .ok st') :
    Chain (fun R a => (xOf a).isSome → xOf R = none) st.reply (adjsOf rs) := by
  fun_induction run Quirks.fixed st rs
  case case1 => trivial                                            -- no plugin left
  case case2 ih => rw [adjsOf_cons_none]; exact ih hk hl hh h      -- a plugin that was not asked
  case case3 => cases h                                            -- `apply` fails
  case case4 st p r rest st1 h1 ih =>                              -- `apply` gives `st1`
    obtain ⟨hfree, hh1⟩ := S.apply hk hl hh h1
    have hrep := apply_reply st st1 p r id hk h1
    have ih := ih ((apply_kind _ _ _ _ _ h1).trans hk) (hrep ▸ by cases r.adjust <;> exact hl) hh1 h
    rw [hrep] at ih
    rw [adjsOf_cons_some]
    cases ha : r.adjust with
    | none => simpa only [ha] using ih
    | some a => exact ⟨hfree a ha, by simpa only [ha] using ih⟩

end Scalar

theorem scalar_memLimit : Scalar .memLimit limitOf where
  mem a h := by
    obtain ⟨l, hl⟩ := Option.isSome_iff_exists.1 h
    obtain ⟨m, hm, hl⟩ := Option.bind_eq_some_iff.1 hl
    obtain ⟨r, hr, hm⟩ := Option.bind_eq_some_iff.1 hm
    exact ⟨r, hr, by simp [resSets, mem_resSetsWith_iff, mem_memSets_iff, hm, hl]⟩
  notRemoved a := by simp [mem_removesAdj_iff]
  step := limitOf_step
  init := rfl

theorem scalar_blockio : Scalar .blockio blockioOf where
  mem a h := by
    obtain ⟨c, hc⟩ := Option.isSome_iff_exists.1 h
    obtain ⟨r, hr, hc⟩ := Option.bind_eq_some_iff.1 hc
    exact ⟨r, hr, by simp [resSets, mem_resSetsWith_iff, hc]⟩
  notRemoved a := by simp [mem_removesAdj_iff]
  step := blockioOf_step
  init := rfl

theorem scalar_rdt : Scalar .rdt rdtOf where
  mem a h := by
    obtain ⟨c, hc⟩ := Option.isSome_iff_exists.1 h
    obtain ⟨r, hr, hc⟩ := Option.bind_eq_some_iff.1 hc
    exact ⟨r, hr, by simp [resSets, mem_resSetsWith_iff, hc]⟩
  notRemoved a := by simp [mem_removesAdj_iff]
  step := rdtOf_step
  init := rfl

/-- what the ledger guarantees at each step of a successful creation request: an adjustment that
    sets the memory limit (`MemFree`), the block-I/O class or the RDT class finds the reply
    collected so far without one -/
structure LedgerOk (R a : Adjustment) : Prop where
  mem : MemFree R a
  blockio : (blockioOf a).isSome → blockioOf R = none
  rdt : (rdtOf a).isSome → rdtOf R = none

theorem run_ledgerOk (c0 : Container) (rs : List (Plugin × Option Response)) (st' : State)
    (h : run Quirks.fixed (initCreate c0) rs = .ok st') : Chain LedgerOk reply0 (adjsOf rs) := by
  have free {X : Type} {it : Item} {xOf : Adjustment → Option X} (S : Scalar it xOf) :=
    S.run_free (id := c0.id) rs rfl rfl (fun hs => by rw [show xOf (initCreate c0).reply = none from S.init] at hs; cases hs) h
  exact Chain.mono (fun R a ⟨⟨f1, f2⟩, f3⟩ => ⟨f1, f2, f3⟩)
    (((free scalar_memLimit).and (free scalar_blockio)).and (free scalar_rdt))

end Nri.Compose
