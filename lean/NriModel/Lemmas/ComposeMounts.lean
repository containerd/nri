/-
C03, mounts.  `orderedMounts.Less` is total on distinct destinations, so two sorted
permutations of a list with distinct destinations are EQUAL; hence the sorted mount list of
"generator on the combined reply" equals that of the sequential application, although the
generator re-sorts after every `AdjustMounts`.  Without a propagation option (`noPropagation`,
part of `WellFormed`) `AdjustMounts` cannot fail and leaves the rootfs propagation alone.
-/
import NriModel.Lemmas.ComposeKeyed
import NriModel.Lemmas.ComposeScalars

namespace Nri.Compose
open Nri Nri.Generate

theorem strLt_total {a b : Str} (h : a ≠ b) : Mounts.strLt a b = true ∨ Mounts.strLt b a = true := by
  rw [Mounts.strLt_iff_lt, Mounts.strLt_iff_lt]
  by_cases h1 : a < b
  · exact .inl h1
  · exact .inr (Decidable.of_not_not fun h2 => h (List.le_antisymm (List.not_lt.mp h2) (List.not_lt.mp h1)))

theorem mountLt_total {a b : Oci.Mount} (h : a.destination ≠ b.destination) :
    Mounts.mountLt a b = true ∨ Mounts.mountLt b a = true := by
  unfold Mounts.mountLt
  simp only [Bool.or_eq_true, decide_eq_true_eq, Bool.and_eq_true]
  rcases Nat.lt_trichotomy (Mounts.parts a.destination) (Mounts.parts b.destination) with h1 | h1 | h1
  · left; left; exact h1
  · rcases strLt_total h with h2 | h2
    · left; right; exact ⟨h1, h2⟩
    · right; right; exact ⟨h1.symm, h2⟩
  · right; left; exact h1

theorem sorted_perm_eq {l1 l2 : List Oci.Mount} (h1 : Mounts.Sorted l1) (h2 : Mounts.Sorted l2)
    (hp : l1.Perm l2) (hn : NodupKeys Oci.Mount.destination l1) : l1 = l2 :=
  hp.eq_of_pairwise (fun a b ha hb hab hba =>
    eq_of_key_eq Oci.Mount.destination hn ha (hp.mem_iff.mpr hb) <| Decidable.of_not_not fun hd => by
      rcases mountLt_total hd with h | h
      · rw [h] at hba; cases hba
      · rw [h] at hab; cases hab) h1 h2

theorem sortMounts_perm_eq {l1 l2 : List Oci.Mount} (hp : l1.Perm l2)
    (hn : NodupKeys Oci.Mount.destination l1) : Mounts.sortMounts l1 = Mounts.sortMounts l2 :=
  sorted_perm_eq (Mounts.sortMounts_sorted l1) (Mounts.sortMounts_sorted l2)
    (((Mounts.sortMounts_perm l1).trans hp).trans (Mounts.sortMounts_perm l2).symm)
    (Mounts.nodup_sortMounts hn)

def mntConv (m : NApi.Mount) : Oci.Mount := (toGenMount m).toOCI

/-- the mount list after `AdjustMounts` -/
def mntG (ms : List Oci.Mount) (a : NApi.Adjustment) : List Oci.Mount :=
  if a.mounts = [] then ms
  else Mounts.sortMounts (twoPass Oci.Mount.destination (fun m : NApi.Mount => m.destination) mntConv ms a.mounts)

theorem propagationQuery_none (m : Api.Mount) (h : m.options.all (fun o => !Api.isPropagationOpt o) = true)
    (p : Str) : m.propagationQuery p = p := by
  unfold Api.Mount.propagationQuery
  generalize m.options = os at h
  induction os with
  | nil => rfl
  | cons o r ih =>
    simp only [List.all_cons, Bool.and_eq_true, Bool.not_eq_true'] at h
    simp only [List.foldl_cons, h.1, Bool.false_eq_true, if_false]
    exact ih (by simpa using h.2)

theorem setStep_noprop (hp : Str → Str) (st : Mounts.State) (m : Api.Mount) (hs : st.prop = [])
    (h : m.options.all (fun o => !Api.isPropagationOpt o) = true) :
    Mounts.setStep hp st m =
      .ok { mounts := removeFirst Oci.Mount.destination m.destination st.mounts ++ [m.toOCI],
            rootfs := st.rootfs, prop := [] } := by
  unfold Mounts.setStep
  simp only [hs, propagationQuery_none m h []]
  have n1 : ¬ (([] : Str) = str "rshared") := by decide
  have n2 : ¬ (([] : Str) = str "rslave") := by decide
  simp [n1, n2]

theorem sets_noprop (hp : Str → Str) (L : List Api.Mount) (st : Mounts.State) (hs : st.prop = [])
    (h : ∀ m ∈ L, m.options.all (fun o => !Api.isPropagationOpt o) = true) :
    ∃ st', Mounts.sets hp st L = .ok st' ∧ st'.rootfs = st.rootfs := by
  induction L generalizing st with
  | nil => exact ⟨st, rfl, rfl⟩
  | cons m r ih =>
    simp only [Mounts.sets]
    have hr : ∀ m ∈ r, m.options.all (fun o => !Api.isPropagationOpt o) = true :=
      fun x hx => h x (List.mem_cons_of_mem _ hx)
    by_cases hm : Api.isMarked m.destination = true
    · simp only [hm, if_true]; exact ih st hs hr
    · simp only [hm, Bool.false_eq_true, if_false]
      rw [setStep_noprop hp st m hs (h m (by simp))]
      simp only
      obtain ⟨st', h1, h2⟩ := ih
        { mounts := removeFirst Oci.Mount.destination m.destination st.mounts ++ [m.toOCI],
          rootfs := st.rootfs, prop := [] } rfl hr
      exact ⟨st', h1, h2⟩

theorem toGenMount_noprop (L : List NApi.Mount) (h : L.all noPropagation = true) :
    ∀ m ∈ L.map toGenMount, m.options.all (fun o => !Api.isPropagationOpt o) = true := by
  intro m hm
  obtain ⟨x, hx, rfl⟩ := List.mem_map.1 hm
  exact List.all_eq_true.1 h x hx

/-- **the mount list after ANY successful `AdjustMounts`** (propagation options allowed) -/
theorem mounts_apply_mounts (hp : Str → Str) (ms : List Oci.Mount) (rootfs : Str) (a : NApi.Adjustment)
    (mp : List Oci.Mount × Str) (hn : NodupKeys Oci.Mount.destination ms)
    (h : Mounts.apply hp ms rootfs (toGen a).mounts = .ok mp) : mp.1 = mntG ms a := by
  unfold Mounts.apply at h
  unfold mntG
  rw [toGen_mounts] at h
  cases hm : a.mounts with
  | nil => rw [hm] at h; simp at h; cases h; simp
  | cons m0 r0 =>
    rw [← hm]
    have hne : (a.mounts.map toGenMount).isEmpty = false := by rw [hm]; rfl
    have hne' : ¬ a.mounts = [] := by rw [hm]; simp
    simp only [hne, Bool.false_eq_true, if_false] at h
    simp only [hne', if_false]
    split at h
    · rename_i st hst
      cases h
      have e := Mounts.sets_mounts _ hst
      simp only [Mounts.removals_eq] at e
      simp only
      rw [e]
      congr 1
      exact gTwoPass_map Oci.Mount.destination Api.Mount.destination Api.Mount.toOCI toGenMount (fun _ _ => rfl) _ hn
    · cases h

theorem mounts_apply_noprop (hp : Str → Str) (ms : List Oci.Mount) (rootfs : Str) (a : NApi.Adjustment)
    (hn : NodupKeys Oci.Mount.destination ms) (h : a.mounts.all noPropagation = true) :
    Mounts.apply hp ms rootfs (toGen a).mounts = .ok (mntG ms a, rootfs) := by
  have key : ∃ mp, Mounts.apply hp ms rootfs (toGen a).mounts = .ok mp ∧ mp.2 = rootfs := by
    unfold Mounts.apply
    rw [toGen_mounts]
    cases hm : a.mounts with
    | nil => exact ⟨(ms, rootfs), by simp, rfl⟩
    | cons m0 r0 =>
      rw [← hm]
      have hne : (a.mounts.map toGenMount).isEmpty = false := by rw [hm]; rfl
      simp only [hne, Bool.false_eq_true, if_false]
      obtain ⟨st', h1, h2⟩ := sets_noprop hp (a.mounts.map toGenMount)
        { mounts := Mounts.removals ms (a.mounts.map toGenMount), rootfs := rootfs, prop := [] } rfl
        (toGenMount_noprop a.mounts h)
      rw [h1]
      exact ⟨_, rfl, h2⟩
  obtain ⟨mp, h1, h2⟩ := key
  rw [h1]
  have := mounts_apply_mounts hp ms rootfs a mp hn h1
  obtain ⟨m, r⟩ := mp
  simp only at this h2
  rw [this, h2]

theorem mntG_nodup (ms : List Oci.Mount) (a : NApi.Adjustment) (h : NodupKeys Oci.Mount.destination ms) :
    NodupKeys Oci.Mount.destination (mntG ms a) := by
  unfold mntG
  split
  · exact h
  · exact Mounts.nodup_sortMounts (nodupKeys_twoPass _ _ _ _ h)

theorem mntG_step (x : List Oci.Mount) (R a : NApi.Adjustment) (hx : NodupKeys Oci.Mount.destination x)
    (hk : ∀ k ∈ a.mounts.map (·.destination), keyOk k = true) :
    mntG x (replyStep R a) = mntG (mntG x R) a := by
  have hstep : (replyStep R a).mounts = keyedStep (·.destination) R.mounts a.mounts := rfl
  by_cases ha : a.mounts = []
  · unfold mntG
    rw [hstep, ha, keyedStep_nil]
    simp
  · have hne := keyedStep_ne_nil (fun m : NApi.Mount => m.destination) R.mounts a.mounts ha
    have hcomp := twoPass_keyedStep (fun m : NApi.Mount => m.destination) Oci.Mount.destination mntConv
      (fun _ _ => rfl) x R.mounts a.mounts hk
    unfold mntG
    rw [hstep]
    simp only [hne, ha, if_false]
    rw [hcomp]
    by_cases hR : R.mounts = []
    · simp [hR, twoPass_nil]
    · simp only [hR, if_false]
      have hn2 := nodupKeys_twoPass Oci.Mount.destination (fun m : NApi.Mount => m.destination) mntConv R.mounts hx
      apply sortMounts_perm_eq
      · exact twoPass_perm _ _ _ _ (Mounts.sortMounts_perm _).symm
      · exact nodupKeys_twoPass _ _ _ _ hn2

end Nri.Compose
