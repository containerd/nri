/-
The collector's combined reply as a fold: the reply after one plugin's adjustment is
`replyStep` of the reply so far (it reads neither the container view nor the ledger), update
lists do not touch it, so the reply of a successful creation request is
`foldl replyStep reply0` over the plugins' adjustments.
-/
import NriModel.Compose
import NriModel.Lemmas.ResultView

namespace Nri.Compose
open Nri Nri.NApi Nri.Result

theorem adjustData_reply (st : State) (a : Adjustment) :
    (adjustData Quirks.fixed st a).reply = replyStep st.reply a := by
  cases h : a.hasLinux <;>
    simp only [adjustData, replyStep, h, argsData_eq, hooksData_eq, resData_eq, cgroupsData_eq, oomData_eq,
      ↓reduceIte, Bool.false_eq_true]
  · rfl
  · -- only `cgroupsPath` is written differently on the two sides (`≠ []` against `= []`)
    simp only [Bool.true_and, decide_not, Bool.not_eq_true', decide_eq_false_iff_not, ite_not]
    rfl

theorem apply_reply (st st' : State) (p : Plugin) (r : Response) (id : Cid) (hk : st.kind = .create id)
    (h : apply Quirks.fixed st p r = .ok st') :
    st'.reply = (match r.adjust with | some a => replyStep st.reply a | none => st.reply) := by
  rw [apply_eq, hk] at h
  obtain ⟨st1, h1, h2⟩ := (bind_eq_ok _ _ _).1 h
  rw [(updateAll_view _ st1 st' p r.updates h2).2]
  cases ha : r.adjust with
  | none =>
    simp only [Result.adjustFor, ha] at h1
    cases h1
    rfl
  | some a =>
    simp only [Result.adjustFor, ha] at h1
    obtain ⟨o, _, rfl⟩ := (adjust_ok_iff _ st st1 p a).1 h1
    exact adjustData_reply st a

theorem adjsOf_cons_none (p : Plugin) (rest : List (Plugin × Option Response)) :
    adjsOf ((p, none) :: rest) = adjsOf rest := by
  simp [adjsOf, List.filterMap_cons, adjOf]

theorem adjsOf_cons_some (p : Plugin) (r : Response) (rest : List (Plugin × Option Response)) :
    adjsOf ((p, some r) :: rest) =
      (match r.adjust with | some a => a :: adjsOf rest | none => adjsOf rest) := by
  cases ha : r.adjust <;> simp [adjsOf, adjOf, ha]

theorem run_reply (rs : List (Plugin × Option Response)) :
    ∀ (st st' : State) (id : Cid), st.kind = .create id → run Quirks.fixed st rs = .ok st' →
      st'.reply = (adjsOf rs).foldl replyStep st.reply := by
  intro st st' id hk h
  fun_induction run Quirks.fixed st rs
  case case1 => cases h; rfl                              -- no plugin left
  case case2 ih => rw [adjsOf_cons_none]; exact ih hk h   -- a plugin that was not asked
  case case3 => cases h                                   -- `apply` fails
  case case4 st p r rest st1 h1 ih =>                     -- `apply` gives `st1`
    rw [ih ((apply_kind _ _ _ _ _ h1).trans hk) h, apply_reply st st1 p r id hk h1, adjsOf_cons_some]
    cases r.adjust <;> rfl

theorem foldl_replyStep_appended (as : List Adjustment) (R : Adjustment) :
    (as.foldl replyStep R).rlimits = R.rlimits ++ as.flatMap (·.rlimits) ∧
    (as.foldl replyStep R).cdiDevices = R.cdiDevices ++ as.flatMap (·.cdiDevices) := by
  induction as generalizing R with
  | nil => simp
  | cons a rest ih => simp [ih, replyStep, List.append_assoc]

end Nri.Compose
