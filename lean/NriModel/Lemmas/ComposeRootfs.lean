/-
C03, rootfs propagation when mounts carry propagation options (outside `WellFormed`).
`AdjustMounts` raises `Linux.RootfsPropagation` to the strongest mode (`rshared` > `rslave` >
anything else) any of its applied mounts asks for and never lowers it
(`Check.expectedRootfs`, `Mounts.apply_rootfs_eq`).  Sequentially the mode raised for a mount
that a later plugin removes or replaces stays; the combined reply no longer contains that mount.
Hence combined ⊑ sequential (`RootfsLe`), not equality: `expectedRootfs_reply_le`.

The proof compares requests: a request of the combined reply's mount list that is not the empty
mode is some applied mount's OWN request (`mem_propRequests`; the mode carried over from entry to
entry starts empty), that mount comes from some plugin's adjustment (`mem_foldl_mounts`), and there
it is requested again whatever is carried over (`propRequests_mem`); more requests raise at least
as far (`rootfsLe_raiseRootfs`).
-/
import NriModel.Lemmas.ComposeMounts
import NriModel.Lemmas.GenerateRootfs

namespace Nri.Compose
open Nri Nri.Generate

def lvl (p : Str) : Nat := if p = str "rshared" then 2 else if p = str "rslave" then 1 else 0

/-- **combined ⊑ sequential** for the rootfs propagation: equal, or the sequential one is
    strictly more shared -/
def RootfsLe (c s : Str) : Prop := c = s ∨ lvl c < lvl s

/-- The mode an entry asks for, given the mode carried over from the entries before it: its own
    request, or — when its options name none — the carried-over one. -/
theorem query_dichotomy (m : Api.Mount) (p : Str) :
    m.propagationQuery p = m.propagationQuery [] ∨ (m.propagationQuery p = p ∧ m.propagationQuery [] = []) := by
  unfold Api.Mount.propagationQuery
  generalize m.options = os
  induction os generalizing p with
  | nil => right; exact ⟨rfl, rfl⟩
  | cons o r ih =>
    simp only [List.foldl_cons]
    by_cases ho : Api.isPropagationOpt o = true
    · simp only [ho, if_true]; left; trivial
    · simp only [ho, Bool.false_eq_true, if_false]; exact ih p

theorem mem_foldl_mounts (as : List NApi.Adjustment) (R : NApi.Adjustment) (m : NApi.Mount)
    (h : m ∈ (as.foldl replyStep R).mounts) : m ∈ R.mounts ∨ ∃ a ∈ as, m ∈ a.mounts := by
  induction as generalizing R with
  | nil => exact .inl h
  | cons a rest ih =>
    simp only [List.foldl_cons] at h
    rcases ih (replyStep R a) h with h1 | ⟨b, hb, hm⟩
    · have h1 : m ∈ keyedStep (·.destination) R.mounts a.mounts := h1
      rcases mem_keyedStep _ h1 with h1 | h1
      · exact .inl h1
      · exact .inr ⟨a, List.mem_cons_self, h1⟩
    · exact .inr ⟨b, List.mem_cons_of_mem _ hb, hm⟩

theorem raiseRootfs_append (old : Str) (A B : List Str) :
    Check.raiseRootfs (Check.raiseRootfs old A) B = Check.raiseRootfs old (A ++ B) := by
  induction A generalizing old with
  | nil => simp [Check.raiseRootfs]
  | cons p t ih => rw [← Mounts.raiseRootfs_cons, ih, Mounts.raiseRootfs_cons, List.cons_append]

theorem foldl_raiseRootfs {ι : Type} (f : ι → List Str) (l : List ι) (r : Str) :
    l.foldl (fun r a => Check.raiseRootfs r (f a)) r = Check.raiseRootfs r (l.flatMap f) := by
  induction l generalizing r with
  | nil => simp [Check.raiseRootfs]
  | cons a t ih => rw [List.foldl_cons, ih, raiseRootfs_append, List.flatMap_cons]

theorem rootfsLe_rshared (c : Str) : RootfsLe c (str "rshared") := by
  by_cases h : c = str "rshared"
  · exact .inl h
  · right
    simp only [lvl, h, if_false, if_true]
    split <;> decide

theorem rootfsLe_raiseRootfs (r : Str) {C S : List Str} (h : ∀ x ∈ C, x ≠ [] → x ∈ S) :
    RootfsLe (Check.raiseRootfs r C) (Check.raiseRootfs r S) := by
  have sub (x : Str) (hx : x ≠ []) (hc : C.contains x = true) : S.contains x = true :=
    List.contains_iff_mem.2 (h x (List.contains_iff_mem.1 hc) hx)
  unfold Check.raiseRootfs
  by_cases sA : S.contains (str "rshared") = true
  · rw [if_pos sA]
    exact rootfsLe_rshared _
  · rw [if_neg sA, if_neg fun cA => sA (sub _ (by decide) cA)]
    by_cases cB : C.contains (str "rslave") = true
    · rw [cB, sub _ (by decide) cB]
      exact .inl rfl
    · rw [Bool.eq_false_iff.2 cB, Bool.false_and, Bool.false_and, if_neg Bool.false_ne_true]
      split
      · -- only `S` raises, and from a mode that is neither name
        rename_i hr
        simp only [Bool.and_eq_true, bne_iff_ne] at hr
        right
        simp [lvl, hr.1.2, hr.2, Mounts.rshared_ne_rslave.symm]
      · exact .inl rfl

theorem mem_propRequests {x prev : Str} {L : List Api.Mount} (h : x ∈ Check.propRequests prev L) :
    x = prev ∨ ∃ m ∈ L, Api.isMarked m.destination = false ∧ m.propagationQuery [] = x := by
  induction L generalizing prev with
  | nil => cases h
  | cons m r ih =>
    have lift : (∃ y ∈ r, Api.isMarked y.destination = false ∧ y.propagationQuery [] = x) →
        ∃ y ∈ m :: r, Api.isMarked y.destination = false ∧ y.propagationQuery [] = x :=
      fun ⟨y, hy, h⟩ => ⟨y, List.mem_cons_of_mem _ hy, h⟩
    unfold Check.propRequests at h
    split at h
    · exact (ih h).imp_right lift
    · rename_i hm
      have own (hx : x = m.propagationQuery prev) :
          x = prev ∨ ∃ y ∈ m :: r, Api.isMarked y.destination = false ∧ y.propagationQuery [] = x := by
        rcases query_dichotomy m prev with e | ⟨e, _⟩
        · exact .inr ⟨m, List.mem_cons_self, by simpa using hm, (hx.trans e).symm⟩
        · exact .inl (hx.trans e)
      rcases List.mem_cons.mp h with hx | hx
      · exact own hx
      · exact (ih hx).elim own fun hx => .inr (lift hx)

theorem propRequests_mem {x : Str} (hx : x ≠ []) {m : Api.Mount} {L : List Api.Mount} (hm : m ∈ L)
    (hu : Api.isMarked m.destination = false) (hq : m.propagationQuery [] = x) (prev : Str) :
    x ∈ Check.propRequests prev L := by
  induction L generalizing prev with
  | nil => cases hm
  | cons y r ih =>
    unfold Check.propRequests
    rcases List.mem_cons.mp hm with rfl | hm
    · rw [if_neg (by simp [hu])]
      rcases query_dichotomy m prev with e | ⟨_, e⟩
      · exact List.mem_cons.mpr (.inl (hq.symm.trans e.symm))
      · exact absurd (hq.symm.trans e) hx
    · split
      · exact ih hm _
      · exact List.mem_cons_of_mem _ (ih hm _)

theorem expectedRootfs_reply_le (as : List NApi.Adjustment) (r : Str) :
    RootfsLe (Check.expectedRootfs r (toGen (as.foldl replyStep reply0)).mounts)
      (as.foldl (fun r a => Check.expectedRootfs r (toGen a).mounts) r) := by
  simp only [Check.expectedRootfs]
  rw [foldl_raiseRootfs]
  apply rootfsLe_raiseRootfs
  intro x hx hne
  rcases mem_propRequests hx with rfl | ⟨m, hm, hu, rfl⟩
  · exact absurd rfl hne
  · rw [toGen_mounts] at hm
    obtain ⟨y, hy, rfl⟩ := List.mem_map.1 hm
    rcases mem_foldl_mounts as reply0 y hy with h0 | ⟨a, ha, hya⟩
    · simp [reply0] at h0
    · exact List.mem_flatMap.2 ⟨a, ha,
        propRequests_mem hne (by rw [toGen_mounts]; exact List.mem_map_of_mem hya) hu rfl []⟩

theorem expectedRootfs_noprop (r : Str) (a : NApi.Adjustment) (h : a.mounts.all noPropagation = true) :
    Check.expectedRootfs r (toGen a).mounts = r := by
  apply Mounts.expectedRootfs_of_quiet
  intro m hm _ o ho
  have hq := List.all_eq_true.1 (toGenMount_noprop a.mounts h m hm) o ho
  simp only [Api.isPropagationOpt, Bool.not_eq_true', Bool.or_eq_false_iff, beq_eq_false_iff_ne] at hq
  exact ⟨hq.1.2, hq.2⟩

end Nri.Compose
