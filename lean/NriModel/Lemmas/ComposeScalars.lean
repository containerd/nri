/-
C03, the append-only and scalar families: hooks, rlimits, CDI names, cgroups path, OOM score,
args, CPU fields, memory limit, pids, hugepages, unified (as a map), block-I/O / RDT class.

For each family: the generator's step `…G` as a function of the spec field and the (NRI-side)
adjustment, the "effective request" `…Of` an adjustment makes, and the step lemma
`…G x (replyStep R a) = …G (…G x R) a`.
-/
import NriModel.Lemmas.ComposeSeq

namespace Nri.Compose
open Nri Nri.Generate

@[simp] theorem toGen_annotations (a : NApi.Adjustment) : (toGen a).annotations = a.annotations := rfl
@[simp] theorem toGen_mounts (a : NApi.Adjustment) : (toGen a).mounts = a.mounts.map toGenMount := rfl
@[simp] theorem toGen_env (a : NApi.Adjustment) : (toGen a).env = a.env.map toGenKV := rfl
@[simp] theorem toGen_hooks (a : NApi.Adjustment) : (toGen a).hooks = a.hooks.map toGenHooks := rfl
@[simp] theorem toGen_rlimits (a : NApi.Adjustment) : (toGen a).rlimits = a.rlimits.map toGenRlimit := rfl
@[simp] theorem toGen_cdi (a : NApi.Adjustment) : (toGen a).cdiDevices = a.cdiDevices := rfl
@[simp] theorem toGen_args (a : NApi.Adjustment) : (toGen a).args = a.args := rfl

theorem toGen_cgroupsPath (a : NApi.Adjustment) :
    (toGen a).cgroupsPath = if a.hasLinux then a.cgroupsPath else [] := by
  unfold Api.Adjustment.cgroupsPath toGen; cases a.hasLinux <;> rfl

theorem toGen_oomScoreAdj (a : NApi.Adjustment) :
    (toGen a).oomScoreAdj = if a.hasLinux then a.oomScoreAdj else none := by
  unfold Api.Adjustment.oomScoreAdj toGen; cases a.hasLinux <;> rfl

def resOf (a : NApi.Adjustment) : Option NApi.Resources := if a.hasLinux then a.resources else none

def cpuOf (a : NApi.Adjustment) : NApi.Cpu := ((resOf a).bind (·.cpu)).getD {}
def limitOf (a : NApi.Adjustment) : Option Int := ((resOf a).bind (·.memory)).bind (·.limit)
def pidsOf (a : NApi.Adjustment) : Option Int := (resOf a).bind (·.pids)
def hugeOf (a : NApi.Adjustment) : List NApi.Hugepage := ((resOf a).map (·.hugepages)).getD []
def uniOf (a : NApi.Adjustment) : AList Str Str := ((resOf a).map (·.unified)).getD []
def blockioOf (a : NApi.Adjustment) : Option Str := (resOf a).bind (·.blockioClass)
def rdtOf (a : NApi.Adjustment) : Option Str := (resOf a).bind (·.rdtClass)

theorem toGen_resources (a : NApi.Adjustment) : (toGen a).resources = (resOf a).map toGenResources := by
  unfold Api.Adjustment.resources toGen resOf; cases a.hasLinux <;> rfl

theorem resOf_step (R a : NApi.Adjustment) (hR : R.hasLinux = true) :
    resOf (replyStep R a) = resStep (resOf R) (resOf a) := by
  unfold resOf replyStep
  cases a.hasLinux <;> simp [hR, resStep]

/-- A reading `π` of the resources section after one response: unchanged (`op _ (π none)`) when
    the response carries no resources, otherwise read off the overlay. -/
theorem resOf_step_read {X : Type} (π : Option NApi.Resources → X) (op : X → X → X)
    (h0 : ∀ b, π b = op (π b) (π none))
    (h1 : ∀ b r, π (some (Result.overlayRes (b.getD (Result.normRes {})) r r.pids)) = op (π b) (π (some r)))
    (R a : NApi.Adjustment) (hR : R.hasLinux = true) :
    π (resOf (replyStep R a)) = op (π (resOf R)) (π (resOf a)) := by
  rw [resOf_step R a hR]
  cases resOf a with
  | none => exact h0 _
  | some r => exact h1 _ r

theorem cpuOf_step (R a : NApi.Adjustment) (hR : R.hasLinux = true) :
    cpuOf (replyStep R a) = Result.overlayCpu (cpuOf R) (cpuOf a) :=
  resOf_step_read (fun o => (o.bind (·.cpu)).getD {}) Result.overlayCpu (fun _ => rfl)
    (fun b r => by cases b <;> rcases r with ⟨_, _ | _⟩ <;> rfl) R a hR

theorem limitOf_step (R a : NApi.Adjustment) (hR : R.hasLinux = true) :
    limitOf (replyStep R a) = (limitOf a).orElse (fun _ => limitOf R) :=
  resOf_step_read (fun o => (o.bind (·.memory)).bind (·.limit)) (fun x y => y.orElse fun _ => x) (fun _ => rfl)
    (fun b r => by rcases b with _ | ⟨_ | _⟩ <;> rcases r with ⟨_ | _⟩ <;> rfl) R a hR

theorem pidsOf_step (R a : NApi.Adjustment) (hR : R.hasLinux = true) :
    pidsOf (replyStep R a) = (pidsOf a).orElse (fun _ => pidsOf R) :=
  resOf_step_read (·.bind (·.pids)) (fun x y => y.orElse fun _ => x) (fun _ => rfl)
    (fun b _ => by cases b <;> rfl) R a hR

theorem blockioOf_step (R a : NApi.Adjustment) (hR : R.hasLinux = true) :
    blockioOf (replyStep R a) = (blockioOf a).orElse (fun _ => blockioOf R) :=
  resOf_step_read (·.bind (·.blockioClass)) (fun x y => y.orElse fun _ => x) (fun _ => rfl)
    (fun b _ => by cases b <;> rfl) R a hR

theorem rdtOf_step (R a : NApi.Adjustment) (hR : R.hasLinux = true) :
    rdtOf (replyStep R a) = (rdtOf a).orElse (fun _ => rdtOf R) :=
  resOf_step_read (·.bind (·.rdtClass)) (fun x y => y.orElse fun _ => x) (fun _ => rfl)
    (fun b _ => by cases b <;> rfl) R a hR

theorem hugeOf_step (R a : NApi.Adjustment) (hR : R.hasLinux = true) :
    hugeOf (replyStep R a) = hugeOf R ++ hugeOf a :=
  resOf_step_read (fun o => (o.map (·.hugepages)).getD []) (· ++ ·) (fun _ => (List.append_nil _).symm)
    (fun b _ => by cases b <;> rfl) R a hR

theorem uniOf_step (R a : NApi.Adjustment) (hR : R.hasLinux = true) :
    uniOf (replyStep R a) = Resources.applyUnified (uniOf R) (uniOf a) :=
  resOf_step_read (fun o => (o.map NApi.Resources.unified).getD []) Resources.applyUnified (fun _ => rfl)
    (fun b _ => by cases b <;> rfl) R a hR

def hooksG (h : Oci.Hooks) (a : NApi.Adjustment) : Oci.Hooks :=
  match (toGen a).hooks with | some x => Hooks.apply h x | none => h
def rlimitsG (l : List Oci.Rlimit) (a : NApi.Adjustment) : List Oci.Rlimit :=
  l ++ (toGen a).rlimits.map Api.POSIXRlimit.toOCI
def argsG (x : List Str) (a : NApi.Adjustment) : List Str := Args.apply x (toGen a).args
def cgroupsG (x : Str) (a : NApi.Adjustment) : Str :=
  if (toGen a).cgroupsPath = [] then x else (toGen a).cgroupsPath
def oomG (x : Option Int) (a : NApi.Adjustment) : Option Int :=
  match (toGen a).oomScoreAdj with | some v => some v | none => x
def cpuG (x : Oci.CPU) (a : NApi.Adjustment) : Oci.CPU := Resources.cpuAfter x (toGen a).resources
def memG (x : Oci.Memory) (a : NApi.Adjustment) : Oci.Memory := Resources.memoryAfter x (toGen a).resources
def hugeG (x : List Oci.HugepageLimit) (a : NApi.Adjustment) : List Oci.HugepageLimit :=
  Resources.hugepagesAfter x (toGen a).resources
def unifiedG (x : AList Str Str) (a : NApi.Adjustment) : AList Str Str :=
  Resources.unifiedAfter x (toGen a).resources
def pidsG (x : Option Int) (a : NApi.Adjustment) : Option Int := Resources.pidsAfter x (toGen a).resources
def cdiG (has : Bool) (bad : List Str) (x : List Str) (a : NApi.Adjustment) : Except GenError (List Str) :=
  cdiAfter has bad x (toGen a).cdiDevices
def blockioG (res : Option (Str → Except Unit Nat)) (x : Option Nat) (a : NApi.Adjustment) :
    Except GenError (Option Nat) := Resources.applyBlockIO res x (toGen a).blockioClass
def rdtG (res : Option (Str → Except Unit Str)) (x : Option Str) (a : NApi.Adjustment) :
    Except GenError (Option Str) := Resources.applyRdt res x (toGen a).rdtClass

theorem hooksApply_empty (h : Oci.Hooks) : Hooks.apply h (toGenHooks {}) = h := by
  simp [Hooks.apply, toGenHooks]

theorem hooksApply_append (h : Oci.Hooks) (a b : NApi.Hooks) :
    Hooks.apply h (toGenHooks (a.append b)) = Hooks.apply (Hooks.apply h (toGenHooks a)) (toGenHooks b) := by
  simp [Hooks.apply, toGenHooks, NApi.Hooks.append, List.append_assoc]

theorem hooksG_eq (h : Oci.Hooks) (a : NApi.Adjustment) :
    hooksG h a = Hooks.apply h (toGenHooks (a.hooks.getD {})) := by
  unfold hooksG
  cases hh : a.hooks <;> simp [hh, hooksApply_empty]

theorem hooksG_step (x : Oci.Hooks) (R a : NApi.Adjustment) :
    hooksG x (replyStep R a) = hooksG (hooksG x R) a := by
  rw [hooksG_eq, hooksG_eq, hooksG_eq]
  cases ha : a.hooks with
  | none => simp [replyStep, hooksStep, ha, hooksApply_empty]
  | some h => simp [replyStep, hooksStep, ha, hooksApply_append]

theorem rlimitsG_step (x : List Oci.Rlimit) (R a : NApi.Adjustment) :
    rlimitsG x (replyStep R a) = rlimitsG (rlimitsG x R) a := by
  simp [rlimitsG, replyStep, List.append_assoc]

/-- the reply's args never start with the empty word (the `UpdateArgs` marker is stripped by
    the collector; `argsOk` excludes a command line starting with an empty word) -/
def argsNorm (l : List Str) : Prop := ∀ x rest, l = x :: rest → x ≠ []

theorem argsApply_norm (x l : List Str) (h : argsNorm l) : Args.apply x l = if l = [] then x else l := by
  unfold Args.apply
  cases l with
  | nil => simp
  | cons y rest =>
    cases y with
    | nil => exact absurd rfl (h [] rest rfl)
    | cons c cs => simp

theorem argsStep_norm (R a : List Str) (hR : argsNorm R) (ha : argsOk a = true) : argsNorm (argsStep R a) := by
  unfold argsStep
  cases a with
  | nil => exact hR
  | cons y rest =>
    cases y with
    | nil =>
      simp only [if_true]
      cases rest with
      | nil => simp [argsOk] at ha
      | cons z r2 =>
        cases z with
        | nil => simp [argsOk] at ha
        | cons c cs => intro x r hx; cases hx; simp
    | cons c cs =>
      intro x r hx
      simp only [reduceCtorEq, if_false] at hx
      cases hx; simp

theorem argsG_step (x : List Str) (R a : NApi.Adjustment) (hR : argsNorm R.args) (ha : argsOk a.args = true) :
    argsG x (replyStep R a) = argsG (argsG x R) a := by
  unfold argsG
  simp only [toGen_args]
  have hn := argsStep_norm R.args a.args hR ha
  rw [argsApply_norm _ _ hR]
  show Args.apply x (argsStep R.args a.args) = _
  rw [argsApply_norm _ _ hn]
  cases hargs : a.args with
  | nil => cases hRa : R.args <;> simp [argsStep, Args.apply]
  | cons y rest =>
    cases y with
    | nil =>
      rw [hargs] at ha
      cases rest with
      | nil => simp [argsOk] at ha
      | cons z r2 => simp [argsStep, Args.apply]
    | cons c cs => simp [argsStep, Args.apply]

theorem cgroupsG_step (x : Str) (R a : NApi.Adjustment) (hR : R.hasLinux = true) :
    cgroupsG x (replyStep R a) = cgroupsG (cgroupsG x R) a := by
  unfold cgroupsG
  simp only [toGen_cgroupsPath, replyStep, hR, if_true]
  cases a.hasLinux
  · simp
  · by_cases hc : a.cgroupsPath = [] <;> simp [hc]

theorem oomG_step (x : Option Int) (R a : NApi.Adjustment) (hR : R.hasLinux = true) :
    oomG x (replyStep R a) = oomG (oomG x R) a := by
  unfold oomG
  simp only [toGen_oomScoreAdj, replyStep, hR, if_true]
  cases a.hasLinux
  · simp
  · cases a.oomScoreAdj <;> simp [Option.orElse]

theorem pidsG_eq (x : Option Int) (a : NApi.Adjustment) : pidsG x a = (pidsOf a).orElse (fun _ => x) := by
  unfold pidsG pidsOf Resources.pidsAfter
  rw [toGen_resources]
  rcases resOf a with _ | r
  · rfl
  · cases hp : r.pids <;> simp [toGenResources, hp, Option.orElse]

theorem pidsG_step (x : Option Int) (R a : NApi.Adjustment) (hR : R.hasLinux = true) :
    pidsG x (replyStep R a) = pidsG (pidsG x R) a := by
  rw [pidsG_eq, pidsG_eq, pidsG_eq, pidsOf_step R a hR]
  cases pidsOf a <;> cases pidsOf R <;> simp [Option.orElse]

/-- `Resources.applyCpu_eq` with `orElse` for its matches, the form in which overlays compose. -/
theorem applyCpu_eq (c : Oci.CPU) (r : Api.LinuxCPU) :
    Resources.applyCpu c r =
      { shares := r.shares.orElse fun _ => c.shares, quota := r.quota.orElse fun _ => c.quota,
        period := r.period.orElse fun _ => c.period,
        realtimeRuntime := r.realtimeRuntime.orElse fun _ => c.realtimeRuntime,
        realtimePeriod := r.realtimePeriod.orElse fun _ => c.realtimePeriod,
        cpus := if r.cpus = [] then c.cpus else r.cpus,
        mems := if r.mems = [] then c.mems else r.mems } := by
  rw [Resources.applyCpu_eq]
  rcases r with ⟨_ | _, _ | _, _ | _, _ | _, _ | _, _, _⟩ <;> rfl

theorem cpuG_eq (x : Oci.CPU) (a : NApi.Adjustment) :
    cpuG x a = Resources.applyCpu x (toGenCpu (cpuOf a)) := by
  unfold cpuG cpuOf Resources.cpuAfter
  rw [toGen_resources]
  have h0 : Resources.applyCpu x (toGenCpu {}) = x := by simp [applyCpu_eq, toGenCpu, Option.orElse]
  rcases resOf a with _ | r
  · exact h0.symm
  · cases hc : r.cpu <;> simp [toGenResources, hc, h0]

theorem applyCpu_overlay (x : Oci.CPU) (b r : NApi.Cpu) :
    Resources.applyCpu x (toGenCpu (Result.overlayCpu b r)) =
      Resources.applyCpu (Resources.applyCpu x (toGenCpu b)) (toGenCpu r) := by
  have lists (x b r : Str) : (if (if r ≠ [] then r else b) = [] then x else if r ≠ [] then r else b) =
      if r = [] then (if b = [] then x else b) else r := by
    by_cases h : r = [] <;> simp [h]
  simp only [applyCpu_eq, toGenCpu, Result.overlayCpu, Option.orElse_eq_or, Option.or_assoc, lists]

theorem cpuG_step (x : Oci.CPU) (R a : NApi.Adjustment) (hR : R.hasLinux = true) :
    cpuG x (replyStep R a) = cpuG (cpuG x R) a := by
  rw [cpuG_eq, cpuG_eq, cpuG_eq, cpuOf_step R a hR, applyCpu_overlay]

/-- what `AdjustResources` does with a requested limit -/
def applyLimit (m : Oci.Memory) (l : Option Int) : Oci.Memory :=
  match l with
  | none => m
  | some l => if l = 0 then m else { m with limit := some l, swap := some l }

theorem memG_eq (x : Oci.Memory) (a : NApi.Adjustment) : memG x a = applyLimit x (limitOf a) := by
  unfold memG limitOf Resources.memoryAfter
  rw [toGen_resources]
  rcases resOf a with _ | r
  · rfl
  · cases hm : r.memory with
    | none => simp [toGenResources, hm, applyLimit]
    | some m =>
      cases hl : m.limit <;>
        simp [toGenResources, hm, applyLimit, Resources.applyMemory, toGenMemory, hl]

/-- The ledger's contribution: a plugin may set the memory limit only when no earlier plugin
    has (both claim the item `memLimit`, which is never released). -/
def MemFree (R a : NApi.Adjustment) : Prop := (limitOf a).isSome → limitOf R = none

theorem memG_step (x : Oci.Memory) (R a : NApi.Adjustment) (hR : R.hasLinux = true) (hf : MemFree R a) :
    memG x (replyStep R a) = memG (memG x R) a := by
  rw [memG_eq, memG_eq, memG_eq, limitOf_step R a hR]
  cases ha : limitOf a with
  | none => simp [Option.orElse, applyLimit]
  | some l =>
    have := hf (by rw [ha]; rfl)
    rw [this]
    simp [Option.orElse, applyLimit]

theorem hugeG_eq (x : List Oci.HugepageLimit) (a : NApi.Adjustment) :
    hugeG x a = Resources.applyHugepages x ((hugeOf a).map toGenHugepage) := by
  unfold hugeG hugeOf Resources.hugepagesAfter
  rw [toGen_resources]
  cases resOf a <;> rfl

theorem hugeG_step (x : List Oci.HugepageLimit) (R a : NApi.Adjustment) (hR : R.hasLinux = true) :
    hugeG x (replyStep R a) = hugeG (hugeG x R) a := by
  rw [hugeG_eq, hugeG_eq, hugeG_eq, hugeOf_step R a hR]
  simp [Resources.applyHugepages, List.foldl_append]

theorem unifiedG_eq (x : AList Str Str) (a : NApi.Adjustment) :
    unifiedG x a = Resources.applyUnified x (uniOf a) := by
  unfold unifiedG uniOf Resources.unifiedAfter
  rw [toGen_resources]
  cases resOf a <;> rfl

/-- maps are compared through `lookup` -/
def MapEq (a b : AList Str Str) : Prop := ∀ k, AList.lookup a k = AList.lookup b k

theorem nodup_foldl_ins {ε ν : Type} (f : ε → Str) (g : ε → ν) (L : List ε) (m : AList Str ν)
    (h : (m.map (·.1)).Nodup) : ((L.foldl (fun m e => AList.insert m (f e) (g e)) m).map (·.1)).Nodup :=
  List.foldlRecOn (motive := fun m : AList Str ν => (m.map (·.1)).Nodup) L _ h fun _ h e _ =>
    AList.keys_insert_nodup (f e) (g e) h

/-- on a map with distinct keys the last entry for `k` is the first one -/
theorem lastMatch_key_nodup {ν : Type} (m : AList Str ν) (h : (m.map (·.1)).Nodup) (k : Str) (d : Option ν) :
    pick (lastMatch (fun e : Str × ν => e.1 == k) m) (·.2) d = (AList.lookup m k).or d := by
  induction m with
  | nil => simp [lastMatch]
  | cons e rest ih =>
    obtain ⟨k', v'⟩ := e
    simp only [List.map_cons, List.nodup_cons] at h
    simp only [lastMatch, AList.lookup]
    by_cases hk : k' = k
    · subst hk
      have : lastMatch (fun e : Str × ν => e.1 == k') rest = none := by
        rw [lastMatch_none_iff]
        intro e he
        have : e.1 ≠ k' := fun h2 => h.1 (List.mem_map.mpr ⟨e, he, h2⟩)
        simpa using this
      simp [this]
    · have hb : (k' == k) = false := by simpa using hk
      have := ih h.2
      simp only [hk, if_false, hb]
      rw [← this]
      cases lastMatch (fun e : Str × ν => e.1 == k) rest <;> simp

theorem unifiedG_step (x : AList Str Str) (R a : NApi.Adjustment) (hR : R.hasLinux = true)
    (hn : ((uniOf R).map (·.1)).Nodup) :
    MapEq (unifiedG x (replyStep R a)) (unifiedG (unifiedG x R) a) := by
  intro k
  rw [unifiedG_eq, unifiedG_eq, unifiedG_eq, uniOf_step R a hR]
  have hn' : ((Resources.applyUnified (uniOf R) (uniOf a)).map (·.1)).Nodup := nodup_foldl_ins _ _ _ _ hn
  rw [Resources.lookup_applyUnified, lastMatch_key_nodup _ hn']
  simp only [Resources.lookup_applyUnified, lastMatch_key_nodup _ hn]
  cases lastMatch (fun e : Str × Str => e.1 == k) (uniOf a) <;> simp

theorem unifiedG_cong (x y : AList Str Str) (a : NApi.Adjustment) (h : MapEq x y) :
    MapEq (unifiedG x a) (unifiedG y a) := by
  intro k
  rw [unifiedG_eq, unifiedG_eq, Resources.lookup_applyUnified, Resources.lookup_applyUnified, h k]

theorem uniOf_step_nodup (R a : NApi.Adjustment) (hR : R.hasLinux = true)
    (hn : ((uniOf R).map (·.1)).Nodup) : ((uniOf (replyStep R a)).map (·.1)).Nodup := by
  rw [uniOf_step R a hR]
  exact nodup_foldl_ins _ _ _ _ hn

theorem cdiAfter_ok_iff (has : Bool) (bad x N y : List Str) :
    cdiAfter has bad x N = .ok y ↔
      (if has then x ++ N else x) = y ∧ (has = true → N.any (fun n => bad.contains n) = false) := by
  unfold cdiAfter
  cases has
  · simp
  · cases N with
    | nil => simp
    | cons n r =>
      simp only [Bool.not_true, Bool.false_or, List.isEmpty_cons, Bool.false_eq_true, if_false, if_true, forall_const]
      cases (n :: r).any fun n => bad.contains n <;> simp

theorem cdiAfter_append_iff (has : Bool) (bad x z A B : List Str) :
    cdiAfter has bad x (A ++ B) = .ok z ↔
      ∃ y, cdiAfter has bad x A = .ok y ∧ cdiAfter has bad y B = .ok z := by
  simp only [cdiAfter_ok_iff, List.any_append, Bool.or_eq_false_iff]
  cases has
  · simp
  · simp only [if_true, forall_const]
    constructor
    · rintro ⟨rfl, ha, hb⟩; exact ⟨_, ⟨rfl, ha⟩, List.append_assoc .., hb⟩
    · rintro ⟨_, ⟨rfl, ha⟩, rfl, hb⟩; exact ⟨(List.append_assoc ..).symm, ha, hb⟩

theorem cdiG_step (has : Bool) (bad : List Str) (x y y1 : List Str) (R a : NApi.Adjustment)
    (h0 : cdiG has bad x R = .ok y) (h1 : cdiG has bad y a = .ok y1) :
    cdiG has bad x (replyStep R a) = .ok y1 :=
  (cdiAfter_append_iff has bad x y1 R.cdiDevices a.cdiDevices).2 ⟨y, h0, h1⟩

theorem toGen_blockioClass (a : NApi.Adjustment) : (toGen a).blockioClass = blockioOf a := by
  unfold Api.Adjustment.blockioClass blockioOf
  rw [toGen_resources]
  cases resOf a <;> rfl

theorem toGen_rdtClass (a : NApi.Adjustment) : (toGen a).rdtClass = rdtOf a := by
  unfold Api.Adjustment.rdtClass rdtOf
  rw [toGen_resources]
  cases resOf a <;> rfl

/-- What `AdjustBlockIOClass` and `AdjustRdtClass` have in common, as functions of the old value
    and the requested class: without a request the old value stays; a request is either ignored
    (no resolver) or decides the outcome whatever the old value was. -/
structure ClassApply {β : Type} (ap : Option β → Option Str → Except GenError (Option β)) : Prop where
  unset : ∀ x, ap x none = .ok x
  set : (∀ x c, ap x c = .ok x) ∨ ∀ x x' c, ap x (some c) = ap x' (some c)

theorem classApply_blockio (res : Option (Str → Except Unit Nat)) : ClassApply (Resources.applyBlockIO res) := by
  refine ⟨fun _ => rfl, ?_⟩
  cases res with
  | none => exact .inl fun _ c => by cases c <;> rfl
  | some f => exact .inr fun _ _ _ => rfl

theorem classApply_rdt (res : Option (Str → Except Unit Str)) : ClassApply (Resources.applyRdt res) := by
  refine ⟨fun _ => rfl, ?_⟩
  cases res with
  | none => exact .inl fun _ c => by cases c <;> rfl
  | some f => exact .inr fun _ _ _ => rfl

section ClassApply
variable {β : Type} {ap : Option β → Option Str → Except GenError (Option β)} (h : ClassApply ap)
include h

theorem ClassApply.step (cR ca : Option Str) (x y y1 : Option β) (h0 : ap x cR = .ok y) (h1 : ap y ca = .ok y1) :
    ap x (ca.orElse fun _ => cR) = .ok y1 := by
  cases ca with
  | none => rw [h.unset] at h1; cases h1; exact h0
  | some c =>
    rcases h.set with hs | hs
    · rw [hs] at h0 h1 ⊢; cases h0; exact h1
    · exact (hs x y c).trans h1

/-- the converse needs the single setter: a new class does not mask an old one -/
theorem ClassApply.conv (cR ca : Option Str) (hf : ca.isSome → cR = none) (x y1 : Option β)
    (hh : ap x (ca.orElse fun _ => cR) = .ok y1) : ∃ y, ap x cR = .ok y ∧ ap y ca = .ok y1 := by
  cases ca with
  | none => exact ⟨y1, hh, h.unset y1⟩
  | some c => rw [hf rfl]; exact ⟨x, h.unset x, hh⟩

end ClassApply

theorem blockioG_step (res : Option (Str → Except Unit Nat)) (x y y1 : Option Nat) (R a : NApi.Adjustment)
    (hR : R.hasLinux = true)
    (h0 : blockioG res x R = .ok y) (h1 : blockioG res y a = .ok y1) :
    blockioG res x (replyStep R a) = .ok y1 := by
  unfold blockioG at *
  rw [toGen_blockioClass] at *
  rw [blockioOf_step R a hR]
  exact (classApply_blockio res).step _ _ x y y1 h0 h1

theorem rdtG_step (res : Option (Str → Except Unit Str)) (x y y1 : Option Str) (R a : NApi.Adjustment)
    (hR : R.hasLinux = true)
    (h0 : rdtG res x R = .ok y) (h1 : rdtG res y a = .ok y1) :
    rdtG res x (replyStep R a) = .ok y1 := by
  unfold rdtG at *
  rw [toGen_rdtClass] at *
  rw [rdtOf_step R a hR]
  exact (classApply_rdt res).step _ _ x y y1 h0 h1

theorem blockioG_conv (res : Option (Str → Except Unit Nat)) (x y1 : Option Nat) (R a : NApi.Adjustment)
    (hR : R.hasLinux = true) (hf : (blockioOf a).isSome → blockioOf R = none)
    (h : blockioG res x (replyStep R a) = .ok y1) :
    ∃ y, blockioG res x R = .ok y ∧ blockioG res y a = .ok y1 := by
  simp only [blockioG, toGen_blockioClass] at h ⊢
  rw [blockioOf_step R a hR] at h
  exact (classApply_blockio res).conv _ _ hf x y1 h

theorem rdtG_conv (res : Option (Str → Except Unit Str)) (x y1 : Option Str) (R a : NApi.Adjustment)
    (hR : R.hasLinux = true) (hf : (rdtOf a).isSome → rdtOf R = none)
    (h : rdtG res x (replyStep R a) = .ok y1) :
    ∃ y, rdtG res x R = .ok y ∧ rdtG res y a = .ok y1 := by
  simp only [rdtG, toGen_rdtClass] at h ⊢
  rw [rdtOf_step R a hR] at h
  exact (classApply_rdt res).conv _ _ hf x y1 h

end Nri.Compose
