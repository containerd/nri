/-
Generic machinery for C03: how a statement about one step of the collector's reply becomes one
about the whole chain (`Chain`; `fold_sim` with its equality form `fold_eq`; `foldE_sim` and
its converse for the families whose generator step can fail), and how a field of the
sequentially adjusted spec is read (`seq_fold`, along an invariant of the spec; `seq_field`,
`seq_fieldE` without).
-/
import NriModel.Lemmas.ComposeReply
import NriModel.Lemmas.GenerateLift

namespace Nri.Compose
open Nri

/-- `C R a` holds for every step of folding `replyStep` over `as` from `R` -/
def Chain (C : NApi.Adjustment → NApi.Adjustment → Prop) : NApi.Adjustment → List NApi.Adjustment → Prop
  | _, [] => True
  | R, a :: rest => C R a ∧ Chain C (replyStep R a) rest

theorem Chain.mono {C D : NApi.Adjustment → NApi.Adjustment → Prop} (h : ∀ R a, C R a → D R a)
    {R as} (hc : Chain C R as) : Chain D R as := by
  induction as generalizing R with
  | nil => trivial
  | cons a rest ih => exact ⟨h R a hc.1, ih hc.2⟩

theorem Chain.and {C D : NApi.Adjustment → NApi.Adjustment → Prop} {R as}
    (hc : Chain C R as) (hd : Chain D R as) : Chain (fun R a => C R a ∧ D R a) R as := by
  induction as generalizing R with
  | nil => trivial
  | cons a rest ih => exact ⟨⟨hc.1, hd.1⟩, ih hc.2 hd.2⟩

theorem Chain.of_forall {P : NApi.Adjustment → Prop} {R as} (h : ∀ a ∈ as, P a) :
    Chain (fun _ a => P a) R as := by
  induction as generalizing R with
  | nil => trivial
  | cons a rest ih => exact ⟨h a (by simp), ih fun b hb => h b (List.mem_cons_of_mem _ hb)⟩

theorem Chain.forall {C : NApi.Adjustment → NApi.Adjustment → Prop} {K : NApi.Adjustment → Prop}
    (h : ∀ R a, C R a → K a) {R as} (hc : Chain C R as) : ∀ a ∈ as, K a := by
  induction as generalizing R with
  | nil => simp
  | cons b rest ih =>
    intro a ha
    rcases List.mem_cons.mp ha with rfl | ha
    · exact h R a hc.1
    · exact ih hc.2 a ha

theorem Chain.foldl {C : NApi.Adjustment → NApi.Adjustment → Prop} {I : NApi.Adjustment → Prop}
    (hI : ∀ R a, I R → C R a → I (replyStep R a)) {R as} (hR : I R) (hc : Chain C R as) :
    I (as.foldl replyStep R) := by
  induction as generalizing R with
  | nil => exact hR
  | cons a rest ih => exact ih (hI R a hR hc.1) hc.2

theorem foldl_cong {X A : Type} (G : X → A → X) (E : X → X → Prop) (V : X → Prop) (K : A → Prop)
    (hV : ∀ x a, V x → K a → V (G x a))
    (hcong : ∀ x y a, V x → V y → K a → E x y → E (G x a) (G y a))
    (as : List A) (hK : ∀ a ∈ as, K a) (x y : X) (hx : V x) (hy : V y) (h : E x y) :
    E (as.foldl G x) (as.foldl G y) := by
  induction as generalizing x y with
  | nil => exact h
  | cons a rest ih =>
    have ka := hK a (by simp)
    exact ih (fun b hb => hK b (List.mem_cons_of_mem _ hb)) _ _ (hV x a hx ka) (hV y a hy ka)
      (hcong x y a hx hy ka h)

section Sim
variable {X : Type} (G : X → NApi.Adjustment → X) (E : X → X → Prop) (V : X → Prop)
  (K : NApi.Adjustment → Prop)
  (I : NApi.Adjustment → Prop) (C : NApi.Adjustment → NApi.Adjustment → Prop)

/-- **Simulation along the fold.**  `V` = validity of the spec field (e.g. distinct keys),
    preserved by every generator step with an adjustment satisfying `K` (what the generator
    step needs of the adjustment it is given, e.g. no `'='` in a variable name); `I` =
    invariant of the reply; `C` = per-step condition.  The reply so far is itself fed to `G` as
    an adjustment, hence `hIK`: the invariant makes the reply an acceptable argument. -/
theorem fold_sim
    (hrefl : ∀ x, E x x) (htrans : ∀ x y z, E x y → E y z → E x z)
    (hV : ∀ x a, V x → K a → V (G x a))
    (hIK : ∀ R, I R → K R) (hCK : ∀ R a, C R a → K a)
    (hI : ∀ R a, I R → C R a → I (replyStep R a))
    (hstep : ∀ x R a, V x → I R → C R a → E (G x (replyStep R a)) (G (G x R) a))
    (hcong : ∀ x y a, V x → V y → K a → E x y → E (G x a) (G y a))
    (as : List NApi.Adjustment) (R : NApi.Adjustment) (x : X) (hx : V x) (hR : I R) (hc : Chain C R as) :
    E (G x (as.foldl replyStep R)) (as.foldl G (G x R)) := by
  induction as generalizing R with
  | nil => exact hrefl _
  | cons a rest ih =>
    obtain ⟨h1, h2⟩ := hc
    simp only [List.foldl_cons]
    have hR' := hI R a hR h1
    refine htrans _ _ _ (ih (replyStep R a) hR' h2) ?_
    exact foldl_cong G E V K hV hcong rest (Chain.forall hCK h2) _ _ (hV x _ hx (hIK _ hR'))
      (hV _ a (hV x R hx (hIK R hR)) (hCK R a h1)) (hstep x R a hx hR h1)

theorem fold_eq
    (hV : ∀ x a, V x → K a → V (G x a))
    (hIK : ∀ R, I R → K R) (hCK : ∀ R a, C R a → K a)
    (hI : ∀ R a, I R → C R a → I (replyStep R a))
    (hstep : ∀ x R a, V x → I R → C R a → G x (replyStep R a) = G (G x R) a)
    (as : List NApi.Adjustment) (R : NApi.Adjustment) (x : X) (hx : V x) (hR : I R) (hc : Chain C R as) :
    G x (as.foldl replyStep R) = as.foldl G (G x R) :=
  fold_sim G Eq V K I C (fun _ => rfl) (fun _ _ _ h1 h2 => h1.trans h2) hV hIK hCK hI hstep
    (fun _ _ _ _ _ _ h => by rw [h]) as R x hx hR hc

end Sim

def foldE {X A ε : Type} (G : X → A → Except ε X) : X → List A → Except ε X
  | x, [] => .ok x
  | x, a :: rest =>
    match G x a with
    | .ok y => foldE G y rest
    | .error e => .error e

theorem foldE_cons_ok {X A ε : Type} {G : X → A → Except ε X} {x z : X} {a : A} {rest : List A} :
    foldE G x (a :: rest) = .ok z ↔ ∃ y, G x a = .ok y ∧ foldE G y rest = .ok z := by
  rw [foldE]
  cases G x a <;> simp

theorem foldE_const {X A ε : Type} {G : X → A → Except ε X} (hG : ∀ x a, G x a = .ok x) (l : List A) (x : X) :
    foldE G x l = .ok x := by
  induction l with
  | nil => rfl
  | cons a rest ih => simp only [foldE, hG, ih]

section SimE
variable {X ε : Type} (G : X → NApi.Adjustment → Except ε X)
  (I : NApi.Adjustment → Prop) (C : NApi.Adjustment → NApi.Adjustment → Prop)

theorem foldE_sim
    (hI : ∀ R a, I R → C R a → I (replyStep R a))
    (hstep : ∀ x y y1 R a, I R → C R a → G x R = .ok y → G y a = .ok y1 → G x (replyStep R a) = .ok y1)
    (as : List NApi.Adjustment) (R : NApi.Adjustment) (x y z : X) (hR : I R) (hc : Chain C R as)
    (h0 : G x R = .ok y) (h : foldE G y as = .ok z) :
    G x (as.foldl replyStep R) = .ok z := by
  induction as generalizing R y with
  | nil => simp only [foldE] at h; cases h; exact h0
  | cons a rest ih =>
    obtain ⟨h1, h2⟩ := hc
    obtain ⟨y1, hy, h⟩ := foldE_cons_ok.1 h
    exact ih (replyStep R a) y1 (hI R a hR h1) h2 (hstep x y y1 R a hR h1 h0 hy) h

theorem foldE_conv
    (hI : ∀ R a, I R → C R a → I (replyStep R a))
    (hstep : ∀ x y1 R a, I R → C R a → G x (replyStep R a) = .ok y1 → ∃ y, G x R = .ok y ∧ G y a = .ok y1)
    (as : List NApi.Adjustment) (R : NApi.Adjustment) (x z : X) (hR : I R) (hc : Chain C R as)
    (h : G x (as.foldl replyStep R) = .ok z) :
    ∃ y, G x R = .ok y ∧ foldE G y as = .ok z := by
  induction as generalizing R with
  | nil => exact ⟨z, h, rfl⟩
  | cons a rest ih =>
    obtain ⟨h1, h2⟩ := hc
    simp only [List.foldl_cons] at h
    obtain ⟨y1, e1, e2⟩ := ih (replyStep R a) (hI R a hR h1) h2 h
    obtain ⟨y, e3, e4⟩ := hstep x y1 R a hR h1 e1
    exact ⟨y, e3, foldE_cons_ok.2 ⟨y1, e4, e2⟩⟩

end SimE

section Seq
open Nri.Generate
variable {ext : Externals}

theorem seq_fold {A X : Type} (f : A → Api.Adjustment) (π : Oci.Spec → X) (G : X → A → X) (V : Oci.Spec → Prop)
    (hG : ∀ s a s', V s → adjust ext s (f a) = .ok s' → π s' = G (π s) a ∧ V s')
    (as : List A) (s sS : Oci.Spec) (hs : V s) (h : seqAdjust ext s (as.map f) = .ok sS) :
    π sS = as.foldl G (π s) ∧ V sS := by
  induction as generalizing s with
  | nil => cases h; exact ⟨rfl, hs⟩
  | cons a rest ih =>
    simp only [List.map_cons, seqAdjust] at h
    split at h
    · rename_i s1 h1
      obtain ⟨e, hs1⟩ := hG s a s1 hs h1
      rw [List.foldl_cons, ← e]
      exact ih s1 hs1 h
    · cases h

theorem seq_field {X : Type} (π : Oci.Spec → X) (G : X → Api.Adjustment → X)
    (hG : ∀ s a s', adjust ext s a = .ok s' → π s' = G (π s) a)
    (as : List Api.Adjustment) (s sS : Oci.Spec) (h : seqAdjust ext s as = .ok sS) :
    π sS = as.foldl G (π s) :=
  (seq_fold id π G (fun _ => True) (fun s a s' _ h => ⟨hG s a s' h, trivial⟩) as s sS trivial
    (by rwa [List.map_id])).1

theorem seq_fieldE {X : Type} (π : Oci.Spec → X) (G : X → Api.Adjustment → Except GenError X)
    (hG : ∀ s a s', adjust ext s a = .ok s' → G (π s) a = .ok (π s'))
    (as : List Api.Adjustment) (s sS : Oci.Spec) (h : seqAdjust ext s as = .ok sS) :
    foldE G (π s) as = .ok (π sS) := by
  induction as generalizing s with
  | nil => simp only [seqAdjust] at h; cases h; rfl
  | cons a rest ih =>
    simp only [seqAdjust] at h
    cases h1 : adjust ext s a with
    | error e => rw [h1] at h; cases h
    | ok s1 => rw [h1] at h; simp only [foldE, hG s a s1 h1]; exact ih s1 h

theorem foldl_map_adj {X : Type} (G : X → Api.Adjustment → X) (as : List NApi.Adjustment) (x : X) :
    (as.map toGen).foldl G x = as.foldl (fun x a => G x (toGen a)) x := by
  rw [List.foldl_map]

theorem foldE_map_adj {X ε : Type} (G : X → Api.Adjustment → Except ε X) (as : List NApi.Adjustment) (x : X) :
    foldE G x (as.map toGen) = foldE (fun x a => G x (toGen a)) x as := by
  induction as generalizing x with
  | nil => rfl
  | cons a rest ih =>
    simp only [List.map_cons, foldE]
    cases G x (toGen a) with
    | error e => rfl
    | ok y => exact ih y

end Seq

end Nri.Compose
