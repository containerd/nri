/-
Lemmas about the NRI/OCI conversions (`NriModel/Convert.lean`), in the order of the Go files: the
optional-value constructors and getters are the identity on `Option`s (up to the sign reading of the
64-bit casts), copying a map with distinct keys reproduces it, and so each record conversion is
computed field by field, down to the normal forms of the two resource round trips.
-/
import NriModel.Convert
import NriModel.Lemmas.AList

namespace Nri.Convert

/-! ## optional.go -/

@[simp] theorem optGet_eq {α : Type} (o : Option α) : optGet o = o := by cases o <;> rfl
@[simp] theorem optInt64_pInt64 (p : Option I64) : optInt64 (.pInt64 p) = p := by cases p <;> rfl
@[simp] theorem optInt64_opt (p : Option I64) : optInt64 (.opt p) = p := by cases p <;> rfl
@[simp] theorem optUInt64_pUint64 (p : Option U64) : optUInt64 (.pUint64 p) = p := by cases p <;> rfl
@[simp] theorem optUInt64_opt (p : Option U64) : optUInt64 (.opt p) = p := by cases p <;> rfl
@[simp] theorem optOf_ptr {α : Type} (p : Option α) : optOf (.ptr p) = p := by cases p <;> rfl
@[simp] theorem optOf_opt {α : Type} (p : Option α) : optOf (.opt p) = p := by cases p <;> rfl
@[simp] theorem optFileMode_pMode (p : Option U32) : optFileMode (.pMode p) = p := by cases p <;> rfl
@[simp] theorem optFileMode_opt (p : Option U32) : optFileMode (.opt p) = p := by cases p <;> rfl

theorem U64.toI64_val (u : U64) : u.toI64.val = (u.val : Int) ↔ u.val < 2 ^ 63 := by
  obtain ⟨b⟩ := u
  simp only [U64.toI64, I64.val, U64.val]
  rw [BitVec.toInt_eq_toNat_cond]
  have := b.isLt
  split <;> omega

theorem I64.toU64_val (i : I64) : (i.toU64.val : Int) = i.val ↔ 0 ≤ i.val := by
  obtain ⟨b⟩ := i
  simp only [I64.toU64, I64.val, U64.val]
  rw [BitVec.toInt_eq_toNat_cond]
  have := b.isLt
  split <;> omega

/-! ## helpers.go -/

theorem map_map_id {α β : Type} {f : α → β} {g : β → α} {l : List α} (h : ∀ x ∈ l, g (f x) = x) :
    (l.map f).map g = l := by
  rw [List.map_map]
  exact (List.map_congr_left h).trans (List.map_id l)

@[simp] theorem dupStringSlice_eq (s : List Str) : dupStringSlice s = s := by
  induction s with
  | nil => rfl
  | cons x xs ih => simp [dupStringSlice, ih]

theorem dupMap_eq (m : AList Str Str) (hwf : AList.WF m) : dupMap m = m :=
  AList.foldl_insert m [] hwf

/-! ## resources.go -/

@[simp] theorem fromOCIMemory_toOCIMemory (m : NriMemory) : fromOCIMemory (toOCIMemory m) = m := by
  cases m; simp [fromOCIMemory, toOCIMemory, optBool]

@[simp] theorem toOCIMemory_fromOCIMemory (m : OciMemory) :
    toOCIMemory (fromOCIMemory m) = { m with checkBeforeUpdate := none } := by
  cases m; simp [fromOCIMemory, toOCIMemory, optBool]

@[simp] theorem fromOCICPU_toOCICPU (c : NriCPU) : fromOCICPU (toOCICPU c) = c := by
  cases c; simp [fromOCICPU, toOCICPU]

@[simp] theorem toOCICPU_fromOCICPU (c : OciCPU) :
    toOCICPU (fromOCICPU c) = { c with burst := none, idle := none } := by
  cases c; simp [fromOCICPU, toOCICPU]

@[simp] theorem fromOCIMemory_empty : fromOCIMemory emptyOciMemory = emptyNriMemory := rfl
@[simp] theorem fromOCICPU_empty : fromOCICPU emptyOciCPU = emptyNriCPU := rfl
@[simp] theorem toOCIMemory_empty : toOCIMemory emptyNriMemory = emptyOciMemory := rfl
@[simp] theorem toOCICPU_empty : toOCICPU emptyNriCPU = emptyOciCPU := rfl

@[simp] theorem fromOCIDevCgroup_eq (d : DevCgroup) : fromOCIDevCgroup d = d := by
  cases d; simp [fromOCIDevCgroup]
@[simp] theorem toOCIDevCgroup_eq (d : DevCgroup) : toOCIDevCgroup d = d := by
  cases d; simp [toOCIDevCgroup]
@[simp] theorem map_fromOCIDevCgroup (l : List DevCgroup) : l.map fromOCIDevCgroup = l :=
  List.map_id'' fromOCIDevCgroup_eq l
@[simp] theorem map_toOCIDevCgroup (l : List DevCgroup) : l.map toOCIDevCgroup = l :=
  List.map_id'' toOCIDevCgroup_eq l
@[simp] theorem copyMemory_eq (m : NriMemory) : copyMemory m = m := by
  cases m; simp [copyMemory, optBool]
@[simp] theorem copyCPU_eq (c : NriCPU) : copyCPU c = c := by
  cases c; simp [copyCPU]

@[simp] theorem map_hugepage_id (l : List Hugepage) :
    l.map (fun h => ({ pageSize := h.pageSize, limit := h.limit } : Hugepage)) = l :=
  List.map_id'' (fun _ => rfl) l

@[simp] theorem map_pids_id (p : Option Pids) : p.map (fun p => ({ limit := p.limit } : Pids)) = p := by
  cases p <;> rfl

theorem unified_copy (m : AList Str Str) (hwf : AList.WF m) :
    (if m.length ≠ 0 then dupMap m else []) = m := by
  cases m with
  | nil => rfl
  | cons e rest => simp [dupMap_eq _ hwf]

theorem fromOCI_toOCI (r : NriResources) (hwf : AList.WF r.unified) :
    fromOCIResources (toOCIResources (some r)) = some (nriNorm r) := by
  obtain ⟨mem, cpu, hp, bc, rc, uni, dev, pids⟩ := r
  simp only at hwf
  simp only [toOCIResources, toOCIResourcesP, fromOCIResources, fromOCIResourcesP, nriNorm,
    unified_copy uni hwf, Option.map_some, map_hugepage_id, map_pids_id, map_toOCIDevCgroup,
    map_fromOCIDevCgroup]
  congr 2
  · cases mem <;> simp
  · cases cpu <;> simp

theorem toOCI_fromOCI (o : OciResources) (hwf : AList.WF o.unified) :
    toOCIResources (fromOCIResources (some o)) = some (ociNorm o) := by
  obtain ⟨dev, mem, cpu, pids, hp, uni, unc⟩ := o
  simp only at hwf
  simp only [toOCIResources, toOCIResourcesP, fromOCIResources, fromOCIResourcesP, ociNorm,
    unified_copy uni hwf, map_hugepage_id, map_pids_id, map_toOCIDevCgroup, map_fromOCIDevCgroup]
  congr 2
  · cases mem <;> simp
  · cases cpu <;> simp

theorem copy_eq (r : NriResources) (hwf : AList.WF r.unified) :
    copyResources (some r) = some { r with devices := [] } := by
  obtain ⟨mem, cpu, hp, bc, rc, uni, dev, pids⟩ := r
  simp only at hwf
  simp only [copyResources, copyResourcesP, unified_copy uni hwf, map_hugepage_id, map_pids_id, optString,
    optOf_opt]
  congr 2
  · cases mem <;> simp
  · cases cpu <;> simp

theorem ociNorm_carried (o : OciResources) : (ociNorm o).carried = o.carried := by
  obtain ⟨dev, mem, cpu, pids, hp, uni, unc⟩ := o
  cases mem <;> cases cpu <;> rfl

theorem nriNorm_carried (r : NriResources) : (nriNorm r).carried = r.carried := by
  obtain ⟨mem, cpu, hp, bc, rc, uni, dev, pids⟩ := r
  cases mem <;> cases cpu <;> rfl

/-! ## mount.go -/

/-- the last propagation option in a list, if any -/
def lastPropagation (opts : List Str) : Option Str :=
  opts.foldl (fun a o => if isPropagation o then some o else a) none

theorem mountOptLoop_eq (opts acc : List Str) (q : Option Str) :
    mountOptLoop opts acc q =
      (acc ++ opts, q.map (opts.foldl (fun a o => if isPropagation o then o else a))) := by
  fun_induction mountOptLoop opts acc q with
  | case1 => simp
  | case2 o rest acc q ih =>
    rw [ih]
    cases q
    · simp
    · -- the pointer holds a string: `o` replaces it exactly when `o` is a propagation option
      simp only [List.append_assoc, List.singleton_append, Option.map_some, List.foldl_cons]
      split <;> rfl

theorem mountToOCI_eq (m : NriMount) (q : Option Str) :
    mountToOCI m q =
      ({ destination := m.destination, type := m.type, source := m.source, options := m.options,
         idMapped := false },
       q.map (m.options.foldl (fun a o => if isPropagation o then o else a))) := by
  rw [mountToOCI, mountOptLoop_eq]
  rfl

/-! ## env.go -/

theorem kvToOCI_fromOCIEnvEntry (s : Str) :
    kvToOCI (fromOCIEnvEntry s) = if '=' ∈ s then s else s ++ ['='] := by
  induction s with
  | nil => rfl
  | cons c cs ih =>
    by_cases hc : c = '='
    · simp [hc, fromOCIEnvEntry, splitFirstEq, kvToOCI]
    · have : kvToOCI (fromOCIEnvEntry (c :: cs)) = c :: kvToOCI (fromOCIEnvEntry cs) := by
        unfold fromOCIEnvEntry
        rw [splitFirstEq, if_neg hc]
        cases splitFirstEq cs with
        | mk k v => cases v <;> rfl
      simp only [this, ih, List.mem_cons, Ne.symm hc, false_or]
      split <;> rfl


theorem splitFirstEq_append (k v : Str) (h : '=' ∉ k) : splitFirstEq (k ++ '=' :: v) = (k, some v) := by
  induction k with
  | nil => simp [splitFirstEq]
  | cons c cs ih =>
    have hc : c ≠ '=' := fun hh => h (by simp [hh])
    have hcs : '=' ∉ cs := fun hh => h (by simp [hh])
    simp only [List.cons_append]
    unfold splitFirstEq
    simp [hc, ih hcs]

theorem fromOCIEnvEntry_kvToOCI (kv : KeyValue) (h : '=' ∉ kv.key) : fromOCIEnvEntry (kvToOCI kv) = kv := by
  unfold fromOCIEnvEntry kvToOCI
  rw [splitFirstEq_append _ _ h]

end Nri.Convert
