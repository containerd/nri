/-
The request loop's `combine` over a merger whose `apply` is result.go's `apply` is `Result.run`
over the chain of those responses.
-/
import NriModel.Lemmas.DispatchResult
import NriModel.Result

namespace Nri.Dispatch

theorem run_eq_combine {ο : Type} (q : Result.Quirks) (name : Plugin → Result.Plugin)
    (M : Merger Result.Response Result.State ο Result.Err)
    (hM : ∀ st p r, M.apply st p r = Result.apply q st (name p) r) (rs : List (Plugin × Result.Response)) :
    ∀ st, Result.run q st (rs.map fun (p, r) => (name p, some r)) =
      match combine M st rs with
      | .ok a => .ok a
      | .error pe => .error pe.2 := by
  induction rs with
  | nil => exact fun st => rfl
  | cons x rest ih =>
    intro st
    simp only [List.map_cons, Result.run, combine, ← hM]
    cases M.apply st x.1 x.2 with
    | error e => rfl
    | ok st1 => exact ih st1

end Nri.Dispatch
