/-
The fine-grained view of the request loop: with the mutex at most one caller is ever inside the
loop, and it is the holder.
-/
import NriModel.Dispatch
import NriModel.Lemmas.Run

namespace Nri.Dispatch

def FState.Excl (s : FState) : Prop :=
  (s.lock = none ∧ s.walkers = []) ∨ ∃ w, s.lock = some w.tid ∧ s.walkers = [w]

theorem FState.Excl.holder {s : FState} (h : s.Excl) :
    s.walkers.length ≤ 1 ∧ (∀ w ∈ s.walkers, s.lock = some w.tid) ∧ (s.lock = none → s.walkers = []) := by
  rcases h with ⟨hl, hw⟩ | ⟨w, hl, hw⟩
  · simp [hl, hw]
  · simp [hl, hw]

theorem FState.Excl.of_find {s : FState} (h : s.Excl) {t : Tid} {w : Walker}
    (hf : s.walkers.find? (·.tid == t) = some w) : s.walkers = [w] ∧ s.lock = some t ∧ w.tid = t := by
  have hwt : w.tid = t := by simpa using List.find?_some hf
  have hmem := List.mem_of_find?_eq_some hf
  rcases h with ⟨_, hw⟩ | ⟨w', hl, hw⟩
  · rw [hw] at hmem
    cases hmem
  · rw [hw, List.mem_singleton] at hmem
    subst hmem
    exact ⟨hw, hwt ▸ hl, hwt⟩

theorem fstep_excl {s s' : FState} {e : FEv} (h : s.Excl) (hs : fstep? true s e = some s') : s'.Excl := by
  cases e with
  | enter t rid =>
    simp only [fstep?] at hs
    split at hs
    · cases hs
    · rename_i hc
      cases hs
      rcases h with ⟨_, hw⟩ | ⟨w, hl, _⟩
      · exact Or.inr ⟨_, rfl, by rw [hw]⟩
      · simp [hl] at hc
  | call t =>
    simp only [fstep?] at hs
    split at hs
    · rename_i w hf
      obtain ⟨hw, hl, hwt⟩ := h.of_find hf
      split at hs
      · rename_i p rest _
        cases hs
        exact Or.inr ⟨⟨t, w.rid, rest⟩, hl, by simp [hw, hwt]⟩
      · cases hs
    · cases hs
  | leave t =>
    simp only [fstep?] at hs
    split at hs
    · rename_i w hf
      obtain ⟨hw, _, hwt⟩ := h.of_find hf
      split at hs
      · cases hs
        exact Or.inl ⟨rfl, by simp [hw, hwt]⟩
      · cases hs
    · cases hs

theorem frun?_eq (guard : Bool) (s : FState) (h : List FEv) : frun? guard s h = h.foldlM (fstep? guard) s :=
  Run.eq_foldlM (fun _ => rfl) (fun s e _ => by rw [frun?]; cases fstep? guard s e <;> rfl) s h

theorem frun_excl {h : List FEv} {s s' : FState} (he : s.Excl) (hr : frun? true s h = some s') : s'.Excl :=
  Run.induct (frun?_eq true) fstep_excl he hr

end Nri.Dispatch
