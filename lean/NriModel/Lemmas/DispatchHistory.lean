/-
Whole histories of the interleaving model: the per-plugin handler logs are projections of one
sequence of relays (for `C06_common_order`); a request neither brings an identity into the plugin
list nor calls one outside it (for `C07_never_again`); removing the fatally failing entries
changes neither the responses collected nor whether there is a veto (for `C07_as_if_absent`).
-/
import NriModel.Lemmas.DispatchLock

namespace Nri.Dispatch
open Nri.Events

variable {ρ σ ο ε : Type}

/-- the relay an event performs in state `s`, if it is an enabled `run` -/
def relayOf (Mof : Nat → EventNo → Merger ρ σ ο ε) (T : Nat) (s : LState ρ ο ε) : Ev ρ → Option (Done ρ ο ε)
  | .run t calls =>
    match pcOf s.pcs t with
    | .waiting rid ev =>
      if calls.length = s.plugins.length then
        some ⟨t, rid, ev, s.plugins, calls, (request (Mof rid ev) T ev (s.plugins.zip calls)).2.1,
              (request (Mof rid ev) T ev (s.plugins.zip calls)).1⟩
      else none
    | _ => none
  | _ => none

/-- did the handler of the plugin with identity `id` run in this relay -/
def ranAt (id : Nat) (d : Done ρ ο ε) : Bool := d.trace.handled.any (·.id == id)

/-- What the plugin with identity `id` itself records while the history unfolds: the request
    ids its handler is invoked with, in the order of invocation. -/
def handlerLog (Mof : Nat → EventNo → Merger ρ σ ο ε) (T : Nat) (id : Nat) :
    LState ρ ο ε → List (Ev ρ) → List Nat
  | _, [] => []
  | s, e :: rest =>
    match step? Mof T s e with
    | none => []
    | some s' =>
      (match relayOf Mof T s e with
       | some d => if ranAt id d then [d.rid] else []
       | none => []) ++ handlerLog Mof T id s' rest

theorem step_log {Mof : Nat → EventNo → Merger ρ σ ο ε} {T : Nat} {s s' : LState ρ ο ε} {e : Ev ρ}
    (h : step? Mof T s e = some s') : s'.log = (relayOf Mof T s e).toList ++ s.log := by
  refine step?_cases (motive := fun e s' => s'.log = (relayOf Mof T s e).toList ++ s.log) h ?_ ?_ ?_ ?_ ?_
  · intro t rid ev _
    rfl
  · intro t calls rid ev hpc hl
    simp only [relayOf, hpc, hl, if_true]
    rfl
  · intro t rid res _
    rfl
  · intro p arr _
    rfl
  · intro id
    rfl

theorem handlerLog_projection (Mof : Nat → EventNo → Merger ρ σ ο ε) (T : Nat) (h : List (Ev ρ)) :
    ∀ (s s' : LState ρ ο ε), run? Mof T s h = some s' →
      ∃ new : List (Done ρ ο ε), s'.log = new ++ s.log ∧
        ∀ id, handlerLog Mof T id s h = (new.reverse.filter (ranAt id)).map (·.rid) := by
  induction h with
  | nil =>
    intro s s' hr
    cases hr
    exact ⟨[], rfl, fun id => rfl⟩
  | cons e rest ih =>
    intro s s' hr
    obtain ⟨s1, hs1, hr⟩ := (Run.cons (run?_eq Mof T)).1 hr
    obtain ⟨new1, hlog, hproj⟩ := ih s1 s' hr
    refine ⟨new1 ++ (relayOf Mof T s e).toList, ?_, ?_⟩
    · rw [hlog, step_log hs1, List.append_assoc]
    · intro id
      simp only [handlerLog, hs1, hproj id]
      cases relayOf Mof T s e with
      | none => simp
      | some d =>
        simp only [Option.toList, List.reverse_append, List.reverse_cons, List.reverse_nil, List.nil_append,
          List.singleton_append, List.filter_cons]
        split <;> rfl

theorem request_ids (M : Merger ρ σ ο ε) (T ev) (ps : List Plugin) (calls : List (Call ρ))
    (hl : calls.length = ps.length) :
    (∀ i ∈ (request M T ev (ps.zip calls)).2.2.map (·.id), i ∈ ps.map (·.id)) ∧
    ∀ q ∈ (request M T ev (ps.zip calls)).2.1.attempted, q.id ∈ ps.map (·.id) := by
  constructor
  · intro i hi
    rw [← request_after_map (·.id) (fun _ => rfl) M T ev ps calls hl]
    obtain ⟨q, hq, rfl⟩ := List.mem_map.1 hi
    exact List.mem_map_of_mem (List.mem_filter.1 hq).1
  · intro q hq
    have := (relay_attempted_sublist M T ev M.init (ps.zip calls)).subset hq
    rw [List.map_fst_zip (Nat.le_of_eq hl.symm)] at this
    exact List.mem_map_of_mem this

theorem okResponses_cons (T ev) (pc : Plugin × Call ρ) (rest : List (Plugin × Call ρ)) :
    okResponses T ev (pc :: rest) = okResponses T ev [pc] ++ okResponses T ev rest := by
  simp only [okResponses]
  split
  · split <;> rfl
  · rfl

theorem okResponses_fatal (T ev) (pc : Plugin × Call ρ) (h : failsFatally T ev pc = true) :
    okResponses T ev [pc] = [] := by
  obtain ⟨hs, hf⟩ := Bool.and_eq_true_iff.1 h
  simp only [okResponses, hs, if_true]
  cases ho : (effOut T pc.1 pc.2).1 with
  | ok r => simp [ho, isFatal] at hf
  | _ => rfl

theorem okResponses_filter_fatal (T ev) (pcs : List (Plugin × Call ρ)) :
    okResponses T ev (pcs.filter fun pc => !failsFatally T ev pc) = okResponses T ev pcs := by
  induction pcs with
  | nil => rfl
  | cons pc rest ih =>
    rw [List.filter_cons, okResponses_cons T ev pc rest]
    cases h : failsFatally T ev pc
    · rw [Bool.not_false, if_pos rfl, okResponses_cons, ih]
    · rw [Bool.not_true, if_neg nofun, okResponses_fatal T ev pc h, ih]
      rfl

theorem hasVeto_filter_fatal (T ev) (pcs : List (Plugin × Call ρ)) :
    hasVeto T ev (pcs.filter fun pc => !failsFatally T ev pc) = hasVeto T ev pcs := by
  rw [hasVeto, hasVeto, List.any_filter]
  congr
  funext pc
  -- a veto is not a fatal failure
  unfold failsFatally
  cases subscribed ev pc.1 <;> cases (effOut T pc.1 pc.2).1 <;> rfl

end Nri.Dispatch
