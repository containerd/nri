/-
Two-digit plugin indices (`CheckPluginIndex`): digits and their values, and the one equation of
the string order `sortPlugins` compares indices with.
-/
import NriModel.Dispatch
namespace Nri.Dispatch
open Nri.Events

theorem strLt_cons (x y : Char) (xs ys : Str) :
    strLt (x :: xs) (y :: ys) = true ↔ x.toNat < y.toNat ∨ x.toNat = y.toNat ∧ strLt xs ys = true := by
  rw [strLt]
  by_cases h : x.toNat < y.toNat
  · simp only [h, if_true, true_or]
  · by_cases h' : y.toNat < x.toNat
    · simp only [h, h', if_true, if_false, false_or, Bool.false_eq_true, false_iff, not_and]
      omega
    · simp only [h, h', if_false, false_or, iff_and_self]
      omega

theorem twoDigits_iff (s : Str) :
    twoDigits s = true ↔ ∃ a b, s = [a, b] ∧ isDigit a = true ∧ isDigit b = true := by
  constructor
  · intro h
    match s, h with
    | [a, b], h => exact ⟨a, b, rfl, Bool.and_eq_true_iff.1 h⟩
  · rintro ⟨a, b, rfl, h⟩
    exact Bool.and_eq_true_iff.2 h

theorem isDigit_toNat {c : Char} (h : isDigit c = true) : c.toNat = 48 + digitVal c ∧ digitVal c ≤ 9 := by
  simp only [isDigit, Bool.and_eq_true, decide_eq_true_eq] at h
  simp only [digitVal]
  omega

theorem digitVal_inj {a b : Char} (ha : isDigit a = true) (hb : isDigit b = true)
    (h : digitVal a = digitVal b) : a = b := by
  apply Char.toNat_inj.1
  rw [(isDigit_toNat ha).1, (isDigit_toNat hb).1, h]

theorem idxNat_pair (a b : Char) : idxNat [a, b] = 10 * digitVal a + digitVal b := by
  simp [idxNat]

end Nri.Dispatch
