/-
The interleaving model of concurrent callers (`LState`, `step?`, `run?`): what each event does,
and the invariant every reachable state satisfies.
-/
import NriModel.Lemmas.DispatchResult
import NriModel.Lemmas.Run

namespace Nri.Dispatch
open Nri.Events

variable {ρ σ ο ε : Type}

theorem pcOf_filter_ne (pcs : List (Tid × Pc ρ ο ε)) (t t' : Tid) (h : t' ≠ t) :
    pcOf (pcs.filter (fun x => x.1 != t)) t' = pcOf pcs t' := by
  induction pcs with
  | nil => rfl
  | cons x xs ih =>
    obtain ⟨u, pc⟩ := x
    by_cases hu : u = t
    · subst hu
      have hne : ¬ (u = t') := fun e => h e.symm
      simp [pcOf, ih, hne]
    · have : (u != t) = true := by simp [hu]
      simp only [List.filter_cons, this, if_true, pcOf]
      split
      · rfl
      · exact ih

theorem pcOf_setPc_self (pcs : List (Tid × Pc ρ ο ε)) (t : Tid) (pc : Pc ρ ο ε) :
    pcOf (setPc pcs t pc) t = pc := by
  simp [setPc, pcOf]

theorem pcOf_setPc_ne (pcs : List (Tid × Pc ρ ο ε)) (t t' : Tid) (pc : Pc ρ ο ε) (h : t' ≠ t) :
    pcOf (setPc pcs t pc) t' = pcOf pcs t' := by
  have hne : ¬ (t = t') := fun e => h e.symm
  simp only [setPc, pcOf, hne, if_false]
  exact pcOf_filter_ne pcs t t' h

theorem request_after_map {α : Type} (f : Plugin → α) (hf : ∀ p, f { p with closed := true } = f p)
    (M : Merger ρ σ ο ε) (T ev) (ps : List Plugin) (calls : List (Call ρ)) (hl : calls.length = ps.length) :
    (relayLoop M T ev M.init (ps.zip calls)).2.after.map f = ps.map f := by
  rw [relay_after_map M T ev M.init _ f hf, List.map_fst_zip (Nat.le_of_eq hl.symm)]

theorem step?_cases {Mof : Nat → EventNo → Merger ρ σ ο ε} {T : Nat} {s s' : LState ρ ο ε} {e : Ev ρ}
    {motive : Ev ρ → LState ρ ο ε → Prop} (h : step? Mof T s e = some s')
    (inv : ∀ t rid ev, pcOf s.pcs t = .idle →
      motive (.inv t rid ev) { s with pcs := setPc s.pcs t (.waiting rid ev) })
    (run : ∀ t calls rid ev, pcOf s.pcs t = .waiting rid ev → calls.length = s.plugins.length →
      motive (.run t calls)
        { plugins := (request (Mof rid ev) T ev (s.plugins.zip calls)).2.2,
          pcs := setPc s.pcs t (.finished rid (request (Mof rid ev) T ev (s.plugins.zip calls)).1),
          log := ⟨t, rid, ev, s.plugins, calls, (request (Mof rid ev) T ev (s.plugins.zip calls)).2.1,
                  (request (Mof rid ev) T ev (s.plugins.zip calls)).1⟩ :: s.log,
          rets := s.rets })
    (ret : ∀ t rid res, pcOf s.pcs t = .finished rid res →
      motive (.ret t) { s with pcs := setPc s.pcs t .idle, rets := (t, rid, res) :: s.rets })
    (activate : ∀ p arr, isActivation s.plugins p arr = true → motive (.activate p arr) { s with plugins := arr })
    (disconnect : ∀ id, motive (.disconnect id) { s with plugins := disconnect s.plugins id }) :
    motive e s' := by
  -- one goal per branch of `step?`; `cases h` closes the disabled ones and names the new state
  revert h
  fun_cases step? Mof T s e <;> intro h <;> cases h
  · exact inv _ _ _ ‹_›
  · have := run _ _ _ _ ‹_› ‹_›
    simp only [*] at this
    exact this
  · exact ret _ _ _ ‹_›
  · exact activate _ _ ‹_›
  · exact disconnect _

theorem run?_eq (Mof : Nat → EventNo → Merger ρ σ ο ε) (T : Nat) (s : LState ρ ο ε) (h : List (Ev ρ)) :
    run? Mof T s h = h.foldlM (step? Mof T) s :=
  Run.eq_foldlM (fun _ => rfl) (fun s e _ => by rw [run?]; cases step? Mof T s e <;> rfl) s h

/-- every completed relay recorded in the log is `request` applied to the caller's own request
    and the calls made for it, on an index-sorted plugin list -/
def LogOk (Mof : Nat → EventNo → Merger ρ σ ο ε) (T : Nat) (d : Done ρ ο ε) : Prop :=
  d.calls.length = d.before.length ∧ Sorted d.before ∧
  d.res = (request (Mof d.rid d.ev) T d.ev (d.before.zip d.calls)).1 ∧
  d.trace = (request (Mof d.rid d.ev) T d.ev (d.before.zip d.calls)).2.1

/-- What holds of every state the interleaving model reaches: the plugin list is in index order;
    every logged relay is `request` on the caller's own request (`LogOk`); a thread about to return
    (`fin`) and every value already returned (`rets`) have their relay in the log, with that result. -/
structure WF (Mof : Nat → EventNo → Merger ρ σ ο ε) (T : Nat) (s : LState ρ ο ε) : Prop where
  sorted : Sorted s.plugins
  log : ∀ d ∈ s.log, LogOk Mof T d
  fin : ∀ t rid res, pcOf s.pcs t = .finished rid res → ∃ d ∈ s.log, d.tid = t ∧ d.rid = rid ∧ d.res = res
  rets : ∀ x ∈ s.rets, ∃ d ∈ s.log, d.tid = x.1 ∧ d.rid = x.2.1 ∧ d.res = x.2.2

theorem WF.init (Mof : Nat → EventNo → Merger ρ σ ο ε) (T : Nat) : WF Mof T (LState.init : LState ρ ο ε) :=
  ⟨List.Pairwise.nil, fun _ h => (by cases h), fun _ _ _ h => (by cases h), fun _ h => (by cases h)⟩

theorem fin_setPc {pcs : List (Tid × Pc ρ ο ε)} {t : Tid} {pc : Pc ρ ο ε}
    {P : Tid → Nat → Except (Err ε) ο → Prop}
    (hfin : ∀ t rid res, pcOf pcs t = .finished rid res → P t rid res)
    (hpc : ∀ rid res, pc = .finished rid res → P t rid res) :
    ∀ t' rid res, pcOf (setPc pcs t pc) t' = .finished rid res → P t' rid res := by
  intro t' rid res h
  by_cases ht : t' = t
  · subst ht
    rw [pcOf_setPc_self] at h
    exact hpc rid res h
  · rw [pcOf_setPc_ne _ _ _ _ ht] at h
    exact hfin t' rid res h

theorem WF.step {Mof : Nat → EventNo → Merger ρ σ ο ε} {T : Nat} {s s' : LState ρ ο ε} {e : Ev ρ}
    (hw : WF Mof T s) (hst : step? Mof T s e = some s') : WF Mof T s' := by
  refine step?_cases (motive := fun _ s' => WF Mof T s') hst ?_ ?_ ?_ ?_ ?_
  · intro t rid ev _
    exact ⟨hw.sorted, hw.log, fin_setPc hw.fin (fun _ _ h => nomatch h), hw.rets⟩
  · intro t calls rid ev _ hl
    have hmono : ∀ {P : Done ρ ο ε → Prop} (d0), (∃ d ∈ s.log, P d) → ∃ d ∈ d0 :: s.log, P d :=
      fun d0 ⟨d, hd, h⟩ => ⟨d, List.mem_cons_of_mem d0 hd, h⟩
    refine ⟨(Sorted.of_map_idx (request_after_map (·.idx) (fun _ => rfl) _ T ev _ calls hl) hw.sorted).prune, ?_, ?_, fun x hx => hmono _ (hw.rets x hx)⟩
    · intro d hd
      rcases List.mem_cons.1 hd with rfl | hd
      · exact ⟨hl, hw.sorted, rfl, rfl⟩
      · exact hw.log d hd
    · refine fin_setPc (fun t' rid' res' h => hmono _ (hw.fin t' rid' res' h)) ?_
      intro rid' res' h
      cases h
      exact ⟨_, List.mem_cons_self, rfl, rfl, rfl⟩
  · intro t rid res hpc
    refine ⟨hw.sorted, hw.log, fin_setPc hw.fin (fun _ _ h => nomatch h), ?_⟩
    intro x hx
    rcases List.mem_cons.1 hx with rfl | hx
    · exact hw.fin t rid res hpc
    · exact hw.rets x hx
  · intro p arr hact
    exact ⟨((isActivation_iff _ _ _).1 hact).2, hw.log, hw.fin, hw.rets⟩
  · intro id
    exact ⟨hw.sorted.disconnect id, hw.log, hw.fin, hw.rets⟩

theorem WF.run {Mof : Nat → EventNo → Merger ρ σ ο ε} {T : Nat} {h : List (Ev ρ)}
    {s s' : LState ρ ο ε} (hw : WF Mof T s) (hr : run? Mof T s h = some s') : WF Mof T s' :=
  Run.induct (run?_eq Mof T) WF.step hw hr

theorem WF.reachable {Mof : Nat → EventNo → Merger ρ σ ο ε} {T : Nat} {h : List (Ev ρ)} {s : LState ρ ο ε}
    (hr : run? Mof T LState.init h = some s) : WF Mof T s :=
  (WF.init Mof T).run hr

end Nri.Dispatch
