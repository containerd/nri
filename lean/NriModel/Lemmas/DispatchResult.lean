/-
The RESULT of one pass of the request loop, for C07: without a veto it is the fold of `apply`
over the responses of the plugins whose call succeeded; a veto ends it.
-/
import NriModel.Lemmas.DispatchRelay

namespace Nri.Dispatch
open Nri.Events

variable {ρ σ ο ε : Type}

/-- `combine`'s error as the loop reports it -/
def liftCombine (r : Except (Plugin × ε) σ) : Except (Err ε) σ :=
  match r with
  | .ok a => .ok a
  | .error pe => .error (.merge pe.1 pe.2)

theorem hasVeto_cons (T ev) (p : Plugin) (c : Call ρ) (rest : List (Plugin × Call ρ)) :
    hasVeto T ev ((p, c) :: rest) = ((subscribed ev p && isVeto (effOut T p c).1) || hasVeto T ev rest) := by
  simp [hasVeto]

variable (M : Merger ρ σ ο ε) (T : Nat) (ev : EventNo) (acc : σ) (pcs : List (Plugin × Call ρ))

theorem relay_result_noveto (hv : hasVeto T ev pcs = false) :
    (relayLoop M T ev acc pcs).1 = liftCombine (combine M acc (okResponses T ev pcs)) := by
  fun_induction relayLoop M T ev acc pcs
  case case1 => rfl
  case case2 hs res t x ih =>
    -- skipped
    rw [x] at ih
    simp only [Bool.not_eq_eq_eq_not, Bool.not_true] at hs
    rw [hasVeto_cons, Bool.or_eq_false_iff] at hv
    simp only [okResponses, hs, Bool.false_eq_true, if_false]
    exact ih hv.2
  case case3 hs ran f d ho res t x ih =>
    -- fatal outcome
    rw [x] at ih
    simp only [Bool.not_eq_eq_eq_not, Bool.not_true, Bool.not_eq_false] at hs
    rw [hasVeto_cons, Bool.or_eq_false_iff] at hv
    simp only [okResponses, hs, if_true, ho]
    exact ih hv.2
  case case4 hs ran m d ho =>
    -- veto
    simp only [Bool.not_eq_eq_eq_not, Bool.not_true, Bool.not_eq_false] at hs
    simp [hasVeto_cons, hs, ho, isVeto] at hv
  case case5 hs ran r d ho e ha =>
    -- refused
    simp only [Bool.not_eq_eq_eq_not, Bool.not_true, Bool.not_eq_false] at hs
    simp [okResponses, hs, ho, combine, ha, liftCombine]
  case case6 hs ran r d ho acc' ha res t x ih =>
    -- ok
    rw [x] at ih
    simp only [Bool.not_eq_eq_eq_not, Bool.not_true, Bool.not_eq_false] at hs
    rw [hasVeto_cons, Bool.or_eq_false_iff] at hv
    simp only [okResponses, hs, if_true, ho, combine, ha]
    exact ih hv.2

theorem relay_append (a : σ) (hr : (relayLoop M T ev acc pcs).1 = .ok a) (post) :
    (relayLoop M T ev acc (pcs ++ post)).1 = (relayLoop M T ev a post).1 ∧
    (relayLoop M T ev acc (pcs ++ post)).2.attempted =
      (relayLoop M T ev acc pcs).2.attempted ++ (relayLoop M T ev a post).2.attempted ∧
    (relayLoop M T ev acc (pcs ++ post)).2.oks =
      (relayLoop M T ev acc pcs).2.oks ++ (relayLoop M T ev a post).2.oks := by
  fun_induction relayLoop M T ev acc pcs
  case case1 =>
    cases hr
    exact ⟨rfl, rfl, rfl⟩
  case case2 hs res t x ih =>
    -- skipped
    rw [x] at ih
    simpa [relayLoop, hs, Trace.skip] using ih hr
  case case3 hs ran f d ho res t x ih =>
    -- fatal outcome
    rw [x] at ih
    simpa [relayLoop, hs, ho] using ih hr
  case case4 | case5 =>
    -- veto, refused: the loop stops here
    cases hr
  case case6 hs ran r d ho acc' ha res t x ih =>
    -- ok
    rw [x] at ih
    simpa [relayLoop, hs, ho, ha] using ih hr

end Nri.Dispatch
