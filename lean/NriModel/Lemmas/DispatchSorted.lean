/-
`strLt` is a strict weak order, so `idxLe` is transitive; the plugin list stays index-sorted
under activation, pruning and disconnects.
-/
import NriModel.Lemmas.DispatchIdx

namespace Nri.Dispatch
open Nri.Events

theorem strLt_asymm : ∀ (a b : Str), strLt a b = true → strLt b a = false
  | [], [], h => by cases h
  | [], _ :: _, _ => rfl
  | _ :: _, [], h => by cases h
  | x :: xs, y :: ys, h => by
    rw [← Bool.not_eq_true, strLt_cons]
    rw [strLt_cons] at h
    rintro (h' | ⟨h', hs⟩)
    · omega
    · rcases h with h | ⟨_, h⟩
      · omega
      · rw [strLt_asymm xs ys h] at hs
        cases hs

theorem strLt_cotrans : ∀ (a b c : Str), strLt c a = true → strLt b a = true ∨ strLt c b = true
  | [], _, [], h => by cases h
  | [], _, _ :: _, h => by cases h
  | _ :: _, [], _, _ => Or.inl rfl
  | _ :: _, _ :: _, [], _ => Or.inr rfl
  | x :: xs, y :: ys, z :: zs, h => by
    simp only [strLt_cons] at h ⊢
    by_cases hyx : y.toNat < x.toNat
    · exact Or.inl (Or.inl hyx)
    · by_cases hzy : z.toNat < y.toNat
      · exact Or.inr (Or.inl hzy)
      · rcases h with h | ⟨_, h⟩
        · omega
        · rcases strLt_cotrans xs ys zs h with h' | h'
          · exact Or.inl (Or.inr ⟨by omega, h'⟩)
          · exact Or.inr (Or.inr ⟨by omega, h'⟩)

theorem idxLe_trans (a b c : Plugin) (h1 : idxLe a b = true) (h2 : idxLe b c = true) : idxLe a c = true := by
  simp only [idxLe, Bool.not_eq_eq_eq_not, Bool.not_true] at *
  cases h : strLt c.idx a.idx with
  | false => rfl
  | true =>
    rcases strLt_cotrans _ b.idx _ h with h' | h'
    · rw [h'] at h1
      cases h1
    · rw [h'] at h2
      cases h2

theorem idxLe_of_lt {a b : Plugin} (h : strLt a.idx b.idx = true) : idxLe a b = true := by
  rw [idxLe, strLt_asymm _ _ h]
  rfl

theorem sortedB_iff (ps : List Plugin) : sortedB ps = true ↔ Sorted ps := by
  induction ps with
  | nil => simp [sortedB, Sorted]
  | cons p rest ih =>
    simp only [sortedB, Bool.and_eq_true, List.all_eq_true, Sorted, List.pairwise_cons]
    rw [ih]
    rfl

instance (ps : List Plugin) : Decidable (Sorted ps) := decidable_of_iff _ (sortedB_iff ps)

theorem Sorted.prune {ps : List Plugin} (h : Sorted ps) : Sorted (prune ps) :=
  List.Pairwise.sublist List.filter_sublist h

theorem sorted_iff_map_idx (ps : List Plugin) :
    Sorted ps ↔ (ps.map (·.idx)).Pairwise (fun a b => (!strLt b a) = true) := by
  rw [List.pairwise_map]
  rfl

theorem Sorted.of_map_idx {l₁ l₂ : List Plugin} (he : l₁.map (·.idx) = l₂.map (·.idx)) (hs : Sorted l₂) :
    Sorted l₁ := by
  rw [sorted_iff_map_idx] at hs ⊢
  rwa [he]

theorem disconnect_map {α : Type} (f : Plugin → α) (hf : ∀ p, f { p with closed := true } = f p)
    (ps : List Plugin) (id : Nat) : (disconnect ps id).map f = ps.map f := by
  rw [disconnect, List.map_map]
  apply List.map_congr_left
  intro p _
  simp only [Function.comp]
  split
  · exact hf p
  · rfl

theorem Sorted.disconnect {ps : List Plugin} (h : Sorted ps) (id : Nat) : Sorted (disconnect ps id) :=
  Sorted.of_map_idx (disconnect_map (·.idx) (fun _ => rfl) ps id) h

theorem insertByIdx_perm (p : Plugin) (ps : List Plugin) : (insertByIdx p ps).Perm (ps ++ [p]) := by
  induction ps with
  | nil => exact .refl _
  | cons q rest ih =>
    rw [insertByIdx]
    split
    · exact (List.perm_append_singleton p (q :: rest)).symm
    · exact ih.cons q

theorem insertByIdx_sorted (p : Plugin) (ps : List Plugin) (h : Sorted ps) : Sorted (insertByIdx p ps) := by
  induction ps with
  | nil => exact List.pairwise_singleton _ _
  | cons q rest ih =>
    obtain ⟨hq, hrest⟩ := List.pairwise_cons.1 h
    rw [insertByIdx]
    split
    · rename_i hlt
      refine List.pairwise_cons.2 ⟨fun a ha => ?_, h⟩
      rcases List.mem_cons.1 ha with rfl | ha
      · exact idxLe_of_lt hlt
      · exact idxLe_trans p q a (idxLe_of_lt hlt) (hq a ha)
    · rename_i hnlt
      refine List.pairwise_cons.2 ⟨fun a ha => ?_, ih hrest⟩
      rcases List.mem_append.1 ((insertByIdx_perm p rest).mem_iff.1 ha) with ha | ha
      · exact hq a ha
      · rw [List.mem_singleton.1 ha, idxLe, Bool.eq_false_iff.2 hnlt]
        rfl

theorem isActivation_iff (ps : List Plugin) (p : Plugin) (ps' : List Plugin) :
    isActivation ps p ps' = true ↔ IsActivation ps p ps' := by
  simp only [isActivation, Bool.and_eq_true, List.isPerm_iff, sortedB_iff, IsActivation]

end Nri.Dispatch
