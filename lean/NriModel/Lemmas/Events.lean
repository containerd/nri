/-
Lemmas about the event-mask model (`NriModel/Events.lean`): `isSet m e` is bit `e - 1` of `m`, which
gives the algebra of `isSet`/`set`/`clear`; the loop of `PrettyString`, `strings.Split`/`Join` and the
table of names are the pieces of the `parse ∘ pretty` round trip (`C14_mask`).
-/
import NriModel.Events

namespace Nri

/-- The kernel evaluates `String.toList` on a literal by decoding its UTF-8 bytes, quadratic in
the length, but unfolds `"ab"` to `String.ofList ['a', 'b']` directly: before a `decide` over terms
with literals, `rw [str_ofList]` turns each literal into its character list. -/
theorem str_ofList (l : List Char) : str (String.ofList l) = l := String.toList_ofList

namespace Events

theorem getLsbD_bit (e i : Nat) : (bit e).getLsbD i = decide (i = e - 1 ∧ i < 32) := by
  rw [show bit e = BitVec.twoPow 32 (e - 1) from rfl, BitVec.getLsbD_twoPow, Bool.eq_iff_iff]
  simp only [Bool.and_eq_true, decide_eq_true_eq]
  omega

theorem isSet_eq (m : Mask) (e : Nat) : isSet m e = m.getLsbD (e - 1) := by
  unfold isSet
  rw [show bit e = BitVec.twoPow 32 (e - 1) from rfl, BitVec.and_twoPow]
  cases hm : m.getLsbD (e - 1)
  · rfl
  · have := BitVec.toNat_twoPow_of_lt (BitVec.lt_of_getLsbD hm)
    simp [← BitVec.toNat_inj, this]

theorem getLsbD_set (m : Mask) (e i : Nat) :
    (set m e).getLsbD i = (m.getLsbD i || decide (i = e - 1 ∧ i < 32)) := by
  unfold set; rw [BitVec.getLsbD_or, getLsbD_bit]

theorem getLsbD_clear (m : Mask) (e i : Nat) :
    (clear m e).getLsbD i = (m.getLsbD i && !decide (i = e - 1)) := by
  unfold clear
  rw [BitVec.getLsbD_and, BitVec.getLsbD_not, getLsbD_bit]
  cases hm : m.getLsbD i
  · simp
  · simp [BitVec.lt_of_getLsbD hm]

theorem isSet_set_self (m : Mask) {e : Nat} (h : e ≤ 32) : isSet (set m e) e = true := by
  have : e - 1 < 32 := by omega
  simp [isSet_eq, getLsbD_set, this]

theorem isSet_clear_self (m : Mask) (e : Nat) : isSet (clear m e) e = false := by
  simp [isSet_eq, getLsbD_clear]

theorem isSet_set_other (m : Mask) {e e' : Nat} (h1 : 1 ≤ e) (h2 : 1 ≤ e') (hne : e ≠ e') :
    isSet (set m e) e' = isSet m e' := by
  have : e' - 1 ≠ e - 1 := by omega
  simp [isSet_eq, getLsbD_set, this]

theorem isSet_clear_other (m : Mask) {e e' : Nat} (h1 : 1 ≤ e) (h2 : 1 ≤ e') (hne : e ≠ e') :
    isSet (clear m e) e' = isSet m e' := by
  have : e' - 1 ≠ e - 1 := by omega
  simp [isSet_eq, getLsbD_clear, this]

theorem isSet_clear_le (m : Mask) (e e' : Nat) : isSet (clear m e) e' = true → isSet m e' = true := by
  rw [isSet_eq, isSet_eq, getLsbD_clear, Bool.and_eq_true]
  exact And.left

theorem set_set_comm (m : Mask) (e e' : Nat) : set (set m e) e' = set (set m e') e := by
  unfold set; rw [BitVec.or_assoc, BitVec.or_comm (bit e), ← BitVec.or_assoc]

theorem set_idem (m : Mask) (e : Nat) : set (set m e) e = set m e := by
  unfold set; rw [BitVec.or_assoc, BitVec.or_self]

theorem clear_set_self (m : Mask) (e : Nat) : clear (set m e) e = clear m e := by
  apply BitVec.eq_of_getLsbD_eq
  intro i _
  rw [getLsbD_clear, getLsbD_clear, getLsbD_set]
  by_cases h : i = e - 1 <;> simp [h]

theorem set_clear_of_isSet (m : Mask) (e : Nat) (h : isSet m e = true) : set (clear m e) e = m := by
  rw [isSet_eq] at h
  apply BitVec.eq_of_getLsbD_eq
  intro i hi
  rw [getLsbD_set, getLsbD_clear]
  by_cases h1 : i = e - 1
  · subst h1
    simp [h, hi]
  · simp [h1]

theorem valid_eq : valid = 0x1fff#32 := by decide

theorem getLsbD_valid (i : Nat) : valid.getLsbD i = decide (i < 13) := by
  rw [valid_eq, show (0x1fff#32) = BitVec.ofNat 32 (2 ^ 13 - 1) from rfl, BitVec.getLsbD_ofNat,
    Nat.testBit_two_pow_sub_one, Bool.eq_iff_iff]
  simp only [Bool.and_eq_true, decide_eq_true_eq]
  omega

theorem isSet_valid (e : Nat) : isSet valid e = decide (e ≤ 13) := by
  rw [isSet_eq, getLsbD_valid, decide_eq_decide]
  omega

theorem within_valid_iff_bits (m : Mask) :
    m &&& ~~~valid = 0#32 ↔ ∀ i, 13 ≤ i → m.getLsbD i = false := by
  constructor
  · intro h i hi
    apply Bool.eq_false_iff.mpr
    intro hm
    have := congrArg (fun x => BitVec.getLsbD x i) h
    have hn : ¬ i < 13 := by omega
    simp only [BitVec.getLsbD_and, BitVec.getLsbD_not, getLsbD_valid, hm, hn, BitVec.lt_of_getLsbD hm] at this
    simp at this
  · intro h
    apply BitVec.eq_of_getLsbD_eq
    intro i _
    rw [BitVec.getLsbD_and, BitVec.getLsbD_not, getLsbD_valid]
    by_cases h13 : i < 13
    · simp [h13]
    · simp [h i (by omega)]

theorem le_of_isSet_valid {m : Mask} (hv : m &&& ~~~valid = 0#32) {e : Nat} (h : isSet m e = true) :
    e ≤ 13 := by
  rcases Nat.lt_or_ge (e - 1) 13 with h' | h'
  · omega
  · rw [isSet_eq, (within_valid_iff_bits m).mp hv _ h'] at h
    cases h

theorem within_valid_iff (m : Mask) : m &&& ~~~valid = 0#32 ↔ m.toNat ≤ 8191 := by
  rw [within_valid_iff_bits, show m.toNat ≤ 8191 ↔ m.toNat < 2 ^ 13 by omega]
  constructor
  · exact fun h => Nat.lt_pow_two_of_testBit _ h
  · intro h i hi
    apply Nat.testBit_lt_two_pow
    have : 2 ^ 13 ≤ 2 ^ i := Nat.pow_le_pow_right (by omega) hi
    omega

/-! The loop of `PrettyString`, split into the events it finds (`evs`) and the mask it is left with
(`rest`).  `pretty m` runs `prettyLoop 14 1 m []`: the Go loop is `for bit := Event_UNKNOWN + 1;
bit <= Event_LAST; bit++`, event 1 and `Event_LAST = 14` steps.  The lemmas hold for any fuel and
start; `14 1` appears where `pretty` itself is meant. -/

def evs : Nat → Nat → Mask → List Nat
  | 0, _, _ => []
  | f + 1, e, m => if isSet m e then e :: evs f (e + 1) (clear m e) else evs f (e + 1) m

def rest : Nat → Nat → Mask → Mask
  | 0, _, m => m
  | f + 1, e, m => if isSet m e then rest f (e + 1) (clear m e) else rest f (e + 1) m

theorem prettyLoop_eq (fuel : Nat) (e : Nat) (m : Mask) (acc : List Str) :
    prettyLoop fuel e m acc = (acc.reverse ++ (evs fuel e m).map prettyName, rest fuel e m) := by
  fun_induction prettyLoop fuel e m acc with
  | case1 => simp [evs, rest]
  | case2 f e m acc h ih => simp [evs, rest, h, ih]
  | case3 f e m acc h ih => simp [evs, rest, h, ih]

theorem mem_evs {fuel e : Nat} {m : Mask} {x : Nat} (hx : x ∈ evs fuel e m) :
    e ≤ x ∧ isSet m x = true := by
  fun_induction evs fuel e m with
  | case1 => cases hx
  | case2 f e m h ih =>  -- `e` is set: `x` is `e` or found later, in `clear m e`
    rcases List.mem_cons.mp hx with rfl | hx
    · exact ⟨Nat.le_refl _, h⟩
    · exact ⟨Nat.le_of_succ_le (ih hx).1, isSet_clear_le m e x (ih hx).2⟩
  | case3 f e m h ih =>  -- `e` is not set
    exact ⟨Nat.le_of_succ_le (ih hx).1, (ih hx).2⟩

theorem foldl_set_evs (fuel : Nat) (e : Nat) (m acc : Mask) :
    (evs fuel e m).foldl set acc ||| rest fuel e m = acc ||| m := by
  fun_induction evs fuel e m generalizing acc with
  | case1 => rfl
  | case2 f e m h ih =>  -- `e` is set: setting it again undoes the `clear`
    rw [rest, if_pos h, List.foldl_cons, ih, set, BitVec.or_assoc, BitVec.or_comm (bit e), ← set,
      set_clear_of_isSet m e h]
  | case3 f e m h ih =>  -- `e` is not set
    rw [rest, if_neg h, ih]

theorem isSet_rest {fuel e : Nat} {m : Mask} {x : Nat} (h : isSet (rest fuel e m) x = true) :
    isSet m x = true ∧ ¬ (e ≤ x ∧ x < e + fuel) := by
  fun_induction rest fuel e m with
  | case1 => exact ⟨h, by omega⟩
  | case2 f e m hs ih =>  -- `e` is set and gets cleared, so `x` is not `e`
    obtain ⟨h1, h2⟩ := ih h
    have : x ≠ e := fun hh => by
      rw [hh, isSet_clear_self] at h1
      cases h1
    exact ⟨isSet_clear_le m e x h1, by omega⟩
  | case3 f e m hs ih =>  -- `e` is not set, so `x`, which is set, is not `e`
    obtain ⟨h1, h2⟩ := ih h
    have : x ≠ e := fun hh => hs (hh ▸ h1)
    exact ⟨h1, by omega⟩

theorem rest_eq_zero {m : Mask} (h : m &&& ~~~valid = 0#32) : rest 14 1 m = 0#32 := by
  apply BitVec.eq_of_getLsbD_eq
  intro i _
  rw [BitVec.getLsbD_zero, ← Nat.add_sub_cancel (n := i) (m := 1), ← isSet_eq]
  apply Bool.eq_false_iff.mpr
  intro hr
  have := le_of_isSet_valid h (isSet_rest hr).1
  have := (isSet_rest hr).2
  omega

theorem toLower_joinWith (sep : Str) (xs : List Str) :
    toLower (joinWith sep xs) = joinWith (toLower sep) (xs.map toLower) := by
  induction xs with
  | nil => rfl
  | cons x rest ih =>
    cases rest with
    | nil => rfl
    | cons y ys =>
      simp only [joinWith, toLower, List.map_append, List.map_cons] at ih ⊢
      rw [ih]

theorem splitOnChar_ne_nil (c : Char) (s : Str) : splitOnChar c s ≠ [] := by
  cases s with
  | nil => simp [splitOnChar]
  | cons x xs =>
    rw [splitOnChar]
    split
    · simp
    · split <;> simp
theorem splitOnChar_append {c : Char} {x : Str} (h : c ∉ x) {s p : Str} {ps : List Str}
    (hs : splitOnChar c s = p :: ps) : splitOnChar c (x ++ s) = (x ++ p) :: ps := by
  induction x with
  | nil => exact hs
  | cons a as ih =>
    have ha : a ≠ c := fun hh => h (by simp [hh])
    rw [List.cons_append, splitOnChar, if_neg ha, ih (fun hh => h (by simp [hh]))]
    rfl

/-- `strings.Split(strings.Join(xs, ","), ",") = xs` for non-empty `xs` of comma-free strings -/
theorem splitOnChar_joinWith (c : Char) (xs : List Str) (hne : xs ≠ []) (h : ∀ x ∈ xs, c ∉ x) :
    splitOnChar c (joinWith [c] xs) = xs := by
  induction xs with
  | nil => exact absurd rfl hne
  | cons x rest ih =>
    have hx : c ∉ x := h x (by simp)
    cases rest with
    | nil => simpa [joinWith] using splitOnChar_append hx (s := []) rfl
    | cons y ys =>
      have hs : splitOnChar c (c :: joinWith [c] (y :: ys)) = [] :: y :: ys := by
        rw [splitOnChar, if_pos rfl, ih (by simp) (fun z hz => h z (by simp [hz]))]
      simpa [joinWith] using splitOnChar_append hx hs

def lcName (e : Nat) : Str := toLower (prettyName e)

theorem name_facts : ∀ e ∈ List.range' 1 13,
    ',' ∉ lcName e ∧ lcName e ≠ str "all" ∧ lcName e ≠ str "pod" ∧ lcName e ≠ str "podsandbox" ∧
    lcName e ≠ str "container" ∧ trim (lcName e) = lcName e ∧
    AList.lookup parseTable (lcName e) = some e := by
  unfold lcName parseTable
  delta prettyName
  repeat rw [str_ofList]
  decide +kernel

theorem parseName_lcName (acc : Mask) {e : Nat} (he : e ∈ List.range' 1 13) :
    parseName acc (lcName e) = some (set acc e) := by
  obtain ⟨_, f1, f2, f3, f4, f5, f6⟩ := name_facts e he
  unfold parseName
  simp [f1, f2, f3, f4, f5, f6]

theorem foldlM_parseName (es : List Nat) (acc : Mask) (h : ∀ e ∈ es, e ∈ List.range' 1 13) :
    (es.map lcName).foldlM parseName acc = some (es.foldl set acc) := by
  induction es generalizing acc with
  | nil => rfl
  | cons e rest ih =>
    obtain ⟨he, hr⟩ := List.forall_mem_cons.mp h
    simp only [List.map_cons, List.foldlM_cons, List.foldl_cons, parseName_lcName acc he]
    exact ih _ hr

theorem parse_joinWith_names (es : List Nat) (hne : es ≠ []) (h : ∀ e ∈ es, e ∈ List.range' 1 13) :
    parse [joinWith [','] (es.map prettyName)] = some (es.foldl set 0#32) := by
  have hsplit : splitOnChar ',' (toLower (joinWith [','] (es.map prettyName))) = es.map lcName := by
    rw [toLower_joinWith, List.map_map]
    refine splitOnChar_joinWith ',' _ (by simpa using hne) (fun x hx => ?_)
    obtain ⟨e, he, rfl⟩ := List.mem_map.mp hx
    exact (name_facts e (h e he)).1
  simp only [parse, parseOne, List.foldlM_cons, List.foldlM_nil, hsplit, foldlM_parseName es _ h]
  rfl

theorem pretty_eq_of_valid {m : Mask} (hv : m &&& ~~~valid = 0#32) :
    pretty m = joinWith [','] ((evs 14 1 m).map prettyName) := by
  unfold pretty
  rw [prettyLoop_eq]
  simp [rest_eq_zero hv, str_ofList [',']]

end Events
end Nri
