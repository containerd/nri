/-
Association-list folds: what `lookup` returns after a fold of `insert`s / `erase`s, and why
the result does not depend on the order of the entries when their keys are distinct.
Used for annotations (where the two `range` loops of `AdjustAnnotations` draw independent orders),
for the unified map, for the `mod` map of `AdjustEnv` and (`look_foldl`) for the hugepage limits.
-/
import NriModel.Lemmas.GenerateKeyed

namespace Nri.Generate
open Nri.Api

section Folds
variable {ε ν : Type}

/-- A loop whose step either puts `g e` where `look` reads or leaves that place alone: `look`
    finds what the last entry that writes has put there. -/
theorem look_foldl {μ : Type} (look : μ → Option ν) (step : μ → ε → μ) (q : ε → Bool) (g : ε → ν)
    (h : ∀ m e, look (step m e) = if q e then some (g e) else look m) (L : List ε) (m : μ) :
    look (L.foldl step m) = pick (lastMatch q L) g (look m) := by
  induction L generalizing m with
  | nil => rfl
  | cons e r ih =>
    rw [List.foldl_cons, ih, h, lastMatch]
    cases lastMatch q r with
    | some x => rfl
    | none => cases q e <;> rfl

theorem lookup_foldl_insert (p : ε → Bool) (f : ε → Str) (g : ε → ν) (L : List ε)
    (m : AList Str ν) (k : Str) :
    AList.lookup (L.foldl (fun m e => if p e then AList.insert m (f e) (g e) else m) m) k =
      pick (lastMatch (fun e => p e && f e == k) L) g (AList.lookup m k) := by
  refine look_foldl (AList.lookup · k) _ _ g (fun m e => ?_) L m
  cases p e
  · rfl
  · by_cases hk : f e = k
    · subst hk; simp [AList.lookup_insert_self]
    · simp [hk, AList.lookup_insert_other _ _ _ _ hk]

theorem lookup_foldl_erase (p : ε → Bool) (f : ε → Str) (L : List ε) (m : AList Str ν) (k : Str) :
    AList.lookup (L.foldl (fun m e => if p e then AList.erase m (f e) else m) m) k =
      if L.any (fun e => p e && f e == k) then none else AList.lookup m k := by
  induction L generalizing m with
  | nil => simp
  | cons e r ih =>
    simp only [List.foldl_cons, List.any_cons]
    rw [ih]
    by_cases hp : p e = true
    · simp only [hp, if_true, Bool.true_and]
      by_cases hk : f e = k
      · subst hk; simp [AList.lookup_erase_self]
      · have : (f e == k) = false := by simpa using hk
        simp [this, AList.lookup_erase_other _ _ _ hk]
    · simp [hp]

theorem lookup_foldl_ins (f : ε → Str) (g : ε → ν) (L : List ε) (m : AList Str ν) (k : Str) :
    AList.lookup (L.foldl (fun m e => AList.insert m (f e) (g e)) m) k =
      pick (lastMatch (fun e => f e == k) L) g (AList.lookup m k) := by
  have := lookup_foldl_insert (fun _ : ε => true) f g L m k
  simpa using this

theorem lookup_foldl_ers (f : ε → Str) (L : List ε) (m : AList Str ν) (k : Str) :
    AList.lookup (L.foldl (fun m e => AList.erase m (f e)) m) k =
      if L.any (fun e => f e == k) then none else AList.lookup m k := by
  have := lookup_foldl_erase (ν := ν) (fun _ : ε => true) f L m k
  simpa using this

theorem lastMatch_perm {κ : Type} (f : ε → κ) {q : ε → Bool} {L π : List ε} (hp : π.Perm L)
    (hn : (L.map f).Nodup) {k : κ} (hq : ∀ x, q x = true → f x = k) :
    lastMatch q π = lastMatch q L := by
  cases h : lastMatch q L with
  | none =>
    rw [lastMatch_none_iff] at h ⊢
    intro e he; exact h e (hp.mem_iff.mp he)
  | some e =>
    obtain ⟨heL, hqe⟩ := lastMatch_some h
    cases h2 : lastMatch q π with
    | none =>
      rw [lastMatch_none_iff] at h2
      have := h2 e (hp.mem_iff.mpr heL)
      rw [hqe] at this; cases this
    | some e' =>
      obtain ⟨he', hqe'⟩ := lastMatch_some h2
      rw [eq_of_key_eq f hn (hp.mem_iff.mp he') heL ((hq e' hqe').trans (hq e hqe).symm)]

theorem foldl_filter_of_ignored {α : Type} (p : ε → Bool) (f : α → ε → α)
    (h : ∀ a e, p e = false → f a e = a) (L : List ε) (a : α) :
    (L.filter p).foldl f a = L.foldl f a := by
  rw [List.foldl_filter]
  congr
  funext a e
  cases hp : p e
  · exact (h a e hp).symm
  · rfl

theorem foldl_filter_ignored {α : Type} (p : ε → Bool) (f : α → ε → α)
    (h : ∀ a e, p e = true → f a e = a) (L : List ε) (a : α) : (L.filter p).foldl f a = a :=
  List.foldlRecOn (motive := (· = a)) _ f rfl fun a' ha e he =>
    (h a' e (List.mem_filter.mp he).2).trans ha

end Folds

namespace Annotations

def removes (k : Str) (e : Str × Str) : Bool := isMarked e.1 && stripMarker e.1 == k
def setsKey (k : Str) (e : Str × Str) : Bool := !isMarked e.1 && e.1 == k

theorem lookup_removals (ann : AList Str Str) (E : List (Str × Str)) (k : Str) :
    AList.lookup (removals ann E) k = if E.any (removes k) then none else AList.lookup ann k := by
  unfold removals
  exact lookup_foldl_erase (fun e => isMarked e.1) (fun e => stripMarker e.1) E ann k

theorem lookup_sets (ann : AList Str Str) (E : List (Str × Str)) (k : Str) :
    AList.lookup (sets ann E) k =
      pick (lastMatch (setsKey k) E) (·.2) (AList.lookup ann k) := by
  unfold sets setsKey
  have hf : (fun (m : AList Str Str) (e : Str × Str) =>
      if isMarked e.1 = true then m else AList.insert m e.1 e.2) =
      (fun m e => if (!isMarked e.1) = true then AList.insert m e.1 e.2 else m) := by
    funext m e; cases isMarked e.1 <;> simp
  rw [hf]
  exact lookup_foldl_insert (fun e : Str × Str => !isMarked e.1) (fun e => e.1) (fun e => e.2) E ann k

theorem lookup_apply (ann : AList Str Str) (E : List (Str × Str)) (k : Str) :
    AList.lookup (apply ann E) k =
      pick (lastMatch (setsKey k) E) (·.2)
        (if E.any (removes k) then none else AList.lookup ann k) := by
  unfold apply
  rw [lookup_sets, lookup_removals]

/-- Order independence (distinct keys, as in a Go map). -/
theorem lookup_apply_perm (ann : AList Str Str) {E π : List (Str × Str)} (hp : π.Perm E)
    (hn : (E.map (·.1)).Nodup) (k : Str) :
    AList.lookup (apply ann π) k = AList.lookup (apply ann E) k := by
  rw [lookup_apply, lookup_apply, hp.any_eq, lastMatch_perm (·.1) hp hn (k := k)]
  intro x qx
  simp only [setsKey, Bool.and_eq_true, beq_iff_eq] at qx
  exact qx.2

/-- the single order that reproduces the pair `(π1, π2)`: removals as `π1` yields them, then
    sets as `π2` yields them -/
def mergeOrders (π1 π2 : List (Str × Str)) : List (Str × Str) :=
  π1.filter (fun e => isMarked e.1) ++ π2.filter (fun e => !isMarked e.1)

theorem removals_filter_marked (ann : AList Str Str) (π : List (Str × Str)) :
    removals ann (π.filter (fun e => isMarked e.1)) = removals ann π :=
  foldl_filter_of_ignored _ _ (fun m e h => by simp [h]) π ann

theorem removals_filter_unmarked (ann : AList Str Str) (π : List (Str × Str)) :
    removals ann (π.filter (fun e => !isMarked e.1)) = ann :=
  foldl_filter_ignored _ _ (fun m e h => by simp_all) π ann

theorem sets_filter_unmarked (ann : AList Str Str) (π : List (Str × Str)) :
    sets ann (π.filter (fun e => !isMarked e.1)) = sets ann π :=
  foldl_filter_of_ignored _ _ (fun m e h => by simp_all) π ann

theorem sets_filter_marked (ann : AList Str Str) (π : List (Str × Str)) :
    sets ann (π.filter (fun e => isMarked e.1)) = ann :=
  foldl_filter_ignored _ _ (fun m e h => by simp [h]) π ann

/-- Two loops with orders `π1`, `π2` compute EXACTLY (as lists) what both loops compute on the
    merged order. -/
theorem applyOrders_eq_apply (ann : AList Str Str) (π1 π2 : List (Str × Str)) :
    applyOrders ann π1 π2 = apply ann (mergeOrders π1 π2) := by
  have hr : ∀ A B, removals ann (A ++ B) = removals (removals ann A) B := fun A B => List.foldl_append
  have hs : ∀ m A B, sets m (A ++ B) = sets (sets m A) B := fun m A B => List.foldl_append
  rw [applyOrders, apply, mergeOrders, hr, hs, removals_filter_marked, removals_filter_unmarked,
    sets_filter_marked, sets_filter_unmarked]

theorem mergeOrders_perm {E π1 π2 : List (Str × Str)} (h1 : π1.Perm E) (h2 : π2.Perm E) :
    (mergeOrders π1 π2).Perm E := by
  unfold mergeOrders
  refine ((h1.filter _).append (h2.filter _)).trans ?_
  exact List.filter_append_perm (fun e => isMarked e.1) E

theorem lookup_applyOrders (ann : AList Str Str) {E π1 π2 : List (Str × Str)} (h1 : π1.Perm E)
    (h2 : π2.Perm E) (hn : (E.map (·.1)).Nodup) (k : Str) :
    AList.lookup (applyOrders ann π1 π2) k = AList.lookup (apply ann E) k := by
  rw [applyOrders_eq_apply]
  exact lookup_apply_perm ann (mergeOrders_perm h1 h2) hn k

end Annotations

namespace Resources

theorem lookup_applyUnified (u : AList Str Str) (E : List (Str × Str)) (k : Str) :
    AList.lookup (applyUnified u E) k =
      pick (lastMatch (fun e : Str × Str => e.1 == k) E) (·.2) (AList.lookup u k) := by
  unfold applyUnified
  exact lookup_foldl_ins (fun e => e.1) (fun e => e.2) E u k

theorem lookup_applyUnified_perm (u : AList Str Str) {E π : List (Str × Str)} (hp : π.Perm E)
    (hn : (E.map (·.1)).Nodup) (k : Str) :
    AList.lookup (applyUnified u π) k = AList.lookup (applyUnified u E) k := by
  rw [lookup_applyUnified, lookup_applyUnified, lastMatch_perm (·.1) hp hn (k := k)]
  exact fun x qx => beq_iff_eq.mp qx

end Resources
end Nri.Generate
