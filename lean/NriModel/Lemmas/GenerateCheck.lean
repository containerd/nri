/-
What the executable keyed-family predicate `Check.keyed` (evaluated by the driver on the
implementation's output) means, as a proposition — it is accepted exactly when, for every key
of the original or named by the adjustment, the result holds what the adjustment wants
(set wins / removed / frame), nothing else appears, no key is duplicated and (for ordered
families) the untouched items keep their order — and that the model's two-pass result is
accepted.  So a `spec = true` verdict on the implementation certifies the very statements the
theorems of `Props/C13.lean` make about the model.
-/
import NriModel.Lemmas.GenerateSpec
import NriModel.Lemmas.GenerateKeyed

namespace Nri.Generate.Check
open Nri.Api Nri.Generate

section
variable {ε β : Type}

theorem getLast?_filter (q : ε → Bool) (L : List ε) : (L.filter q).getLast? = lastMatch q L := by
  rw [List.getLast?_filter, lastMatch_eq_find?]

/-- what `want` asks `find` to return -/
def expected (rawKey : ε → Str) (conv : ε → β) (key : β → Str) (L : List ε) (old : List β) (k : Str) :
    Option β :=
  match want rawKey L k with
  | .set e => some (conv e)
  | .removed => none
  | .untouched => find key k old

theorem expected_eq (rawKey : ε → Str) (conv : ε → β) (key : β → Str) (L : List ε) (old : List β) (k : Str) :
    expected rawKey conv key L old k = requested rawKey conv L k (find key k old) := by
  unfold expected want requested
  rw [getLast?_filter]
  show _ = pick (lastMatch (isSetOf rawKey k) L) conv (if L.any (isRemovalOf rawKey k) then none else _)
  cases lastMatch (isSetOf rawKey k) L with
  | some e => rfl
  | none => cases L.any (isRemovalOf rawKey k) <;> rfl

theorem ite_some_ne_none {γ : Type} {c : Prop} [Decidable c] {a : γ} {o : Option γ} (ho : o ≠ none) :
    (if c then some a else o) ≠ none := by
  split
  · exact Option.some_ne_none a
  · exact ho

variable [DecidableEq β]

theorem keyed_nil_iff (fam : String) (show_ : Str → String) (rawKey : ε → Str) (conv : ε → β)
    (key : β → Str) (isMap ordered : Bool) (L : List ε) (old new : List β) :
    keyed fam show_ rawKey conv key isMap ordered L old new = [] ↔
      (∀ k, (k ∈ old.map key ∨ k ∈ named rawKey L) → find key k new = expected rawKey conv key L old k) ∧
      (∀ x ∈ new, key x ∈ old.map key ∨ key x ∈ named rawKey L) ∧
      NodupKeys key new ∧
      (ordered = true →
        new.filter (fun x => !(named rawKey L).contains (key x)) =
        old.filter (fun x => !(named rawKey L).contains (key x))) := by
  unfold keyed
  simp only [List.append_eq_nil_iff, List.filterMap_eq_nil_iff, List.map_eq_nil_iff,
    List.filter_eq_nil_iff, List.mem_eraseDups, List.mem_append, and_assoc]
  refine and_congr (forall_congr' fun k => imp_congr_right fun _ => ?_)
    (and_congr (forall_congr' fun x => imp_congr_right fun _ => ?_) (and_congr ?_ ?_))
  · -- one key: the verdict is `none` exactly when `find` returns what `want` asks
    unfold expected
    cases want rawKey L k with
    | set e =>
      dsimp only
      by_cases ha : find key k new = some (conv e)
      · exact iff_of_true (if_pos ha) ha
      · refine iff_of_false (fun h => ?_) ha
        rw [if_neg ha] at h
        exact ite_some_ne_none (ite_some_ne_none (Option.some_ne_none _)) h
    | removed =>
      cases find key k new with
      | none => exact iff_of_true rfl rfl
      | some x => exact iff_of_false nofun nofun
    | untouched =>
      dsimp only
      by_cases ha : find key k new = find key k old
      · exact iff_of_true (if_pos ha) ha
      · exact iff_of_false (fun h => by rw [if_neg ha] at h; cases h) ha
  · rw [Bool.not_eq_true', Bool.not_eq_false, List.contains_eq_mem, decide_eq_true_eq,
      List.mem_eraseDups, List.mem_append]
  · by_cases hn : NodupKeys key new <;> simp [hn]
  · cases ordered <;> simp

theorem keyed_accepts_twoPass (fam : String) (show_ : Str → String) (rawKey : ε → Str) (conv : ε → β)
    (key : β → Str) (isMap ordered : Bool) (L : List ε) (old : List β)
    (hconv : ∀ e, isMarked (rawKey e) = false → key (conv e) = rawKey e)
    (hn : NodupKeys key old) :
    keyed fam show_ rawKey conv key isMap ordered L old
      (gSets key rawKey conv (gRemovals key rawKey old L) L) = [] := by
  rw [keyed_nil_iff]
  refine ⟨?_, ?_, nodup_twoPass key rawKey conv hconv L hn, fun _ => ?_⟩
  · intro k _
    rw [find_twoPass key rawKey conv hconv L hn, expected_eq]
  · intro x hx
    rcases mem_gSets key rawKey conv L hx with hx | ⟨e, he, hm, hxe⟩
    · exact Or.inl (List.mem_map.mpr ⟨x, mem_gRemovals key rawKey L hx, rfl⟩)
    · right
      rw [hxe, hconv e hm]
      exact List.mem_map.mpr ⟨e, he, strip_of_not_marked hm⟩
  · exact filter_twoPass_unnamed key rawKey conv hconv old L

end
end Nri.Generate.Check
