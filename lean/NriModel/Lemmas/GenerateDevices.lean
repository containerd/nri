/-
Devices: `Devices.apply` is the generic two-pass shape on the device list (given distinct
paths in the original), and the device-cgroup rules are the original rules followed by one
rule per device set.
-/
import NriModel.Lemmas.GenerateKeyed

namespace Nri.Generate
open Nri.Api

namespace Devices

theorem toOCI_path (d : LinuxDevice) : d.toOCI.path = d.path := rfl

theorem removals_eq (devs : List Oci.Device) (L : List LinuxDevice) :
    removals devs L = gRemovals Oci.Device.path LinuxDevice.path devs L := rfl

/-- With distinct paths `AddDevice` after `RemoveDevice` always appends. -/
theorem setStep_fst {st : State} (d : LinuxDevice) (h : NodupKeys Oci.Device.path st.1) :
    (setStep st d).1 = removeFirst Oci.Device.path d.path st.1 ++ [d.toOCI] := by
  unfold setStep addStep
  simp only
  apply addOrReplace_of_absent
  have := find_removeFirst_self Oci.Device.path (k := d.path) h
  rw [find_eq_none_iff] at this
  intro y hy; rw [toOCI_path]; exact this y hy

theorem sets_fst (st : State) (L : List LinuxDevice) (h : NodupKeys Oci.Device.path st.1) :
    (sets st L).1 = gSets Oci.Device.path LinuxDevice.path LinuxDevice.toOCI st.1 L := by
  induction L generalizing st with
  | nil => rfl
  | cons d r ih =>
    rw [sets, gSets, List.foldl_cons, List.foldl_cons]
    cases hm : isMarked d.path
    · have e := setStep_fst d h
      simp only [Bool.false_eq_true, if_false, ← e]
      exact ih _ (e ▸ nodup_gSets_step _ LinuxDevice.path LinuxDevice.toOCI (fun _ _ => rfl) hm h)
    · exact ih st h

theorem sets_snd (st : State) (L : List LinuxDevice) :
    (sets st L).2 = st.2 ++ (L.filter (fun d => !isMarked d.path)).map LinuxDevice.cgroupRule := by
  induction L generalizing st with
  | nil => simp [sets]
  | cons d r ih =>
    rw [sets, List.foldl_cons]
    cases hm : isMarked d.path
    · refine (ih (setStep st d)).trans ?_
      simp [hm, setStep, addStep]
    · refine (ih st).trans ?_
      simp [hm]

theorem apply_fst (st : State) (L : List LinuxDevice) (h : NodupKeys Oci.Device.path st.1) :
    (apply st L).1 =
      gSets Oci.Device.path LinuxDevice.path LinuxDevice.toOCI
        (gRemovals Oci.Device.path LinuxDevice.path st.1 L) L := by
  unfold apply
  rw [sets_fst _ _ (by simpa [removals_eq] using nodup_gRemovals Oci.Device.path LinuxDevice.path L h)]
  rfl

theorem apply_snd (st : State) (L : List LinuxDevice) :
    (apply st L).2 = st.2 ++ (L.filter (fun d => !isMarked d.path)).map LinuxDevice.cgroupRule := by
  unfold apply; rw [sets_snd]

end Devices
end Nri.Generate
