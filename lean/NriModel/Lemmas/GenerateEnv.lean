/-
Environment: closed form of the two phases of `AdjustEnv` on a well-formed original
environment (entries `NAME=value`, names non-empty and distinct), what `Env.lookup` returns
for every name afterwards, and that untouched entries keep their order.

A well-formed environment is the rendering of a generator state with distinct, non-empty,
`'='`-free names (`WF.exists_render`, `wf_render`), so everything is proved about lists of
`(name, value)` pairs and transported through `render`.
-/
import NriModel.Lemmas.GenerateAnnotations
import NriModel.Lemmas.AList

namespace Nri.Generate
open Nri.Api

namespace Env

theorem splitEq_render (n v : Str) (h : '=' ∉ n) : splitEq (n ++ '=' :: v) = some (n, v) := by
  induction n with
  | nil => simp [splitEq]
  | cons c r ih =>
    have hc : c ≠ '=' := by intro hc; apply h; simp [hc]
    have hr : '=' ∉ r := by intro hr; apply h; simp [hr]
    simp [splitEq, hc, ih hr]

theorem splitEq_some {e n v : Str} (h : splitEq e = some (n, v)) : e = n ++ '=' :: v ∧ '=' ∉ n := by
  fun_induction splitEq e generalizing n with
  | case1 => cases h
  | case2 r => cases h; simp
  | case3 c r hc n' v' hs ih =>
    cases h
    obtain ⟨e1, e2⟩ := ih hs
    exact ⟨by rw [e1]; rfl, fun hm => (List.mem_cons.mp hm).elim (fun h => hc h.symm) e2⟩
  | case4 => cases h

theorem nameOf_of_split {e n v : Str} (h : splitEq e = some (n, v)) : nameOf e = n := by
  simp [nameOf, h]

def NoEq (acc : AList Str Str) : Prop := ∀ x ∈ acc, '=' ∉ x.1

theorem lookup_render {acc : AList Str Str} (h : NoEq acc) (k : Str) :
    lookup (render acc) k = AList.lookup acc k := by
  induction acc with
  | nil => rfl
  | cons x r ih =>
    obtain ⟨n, v⟩ := x
    have hn : '=' ∉ n := h (n, v) (by simp)
    have hr : NoEq r := fun y hy => h y (List.mem_cons_of_mem _ hy)
    simp only [render, List.map_cons, lookup, splitEq_render n v hn, AList.lookup]
    have := ih hr
    simp only [render] at this
    rw [this]

theorem lookup_append {ν : Type} (a b : AList Str ν) (k : Str) :
    AList.lookup (a ++ b) k = (AList.lookup a k).or (AList.lookup b k) := by
  induction a with
  | nil => simp [AList.lookup]
  | cons x r ih =>
    obtain ⟨k', v'⟩ := x
    by_cases hk : k' = k <;> simp [AList.lookup, hk, ih]

theorem lookup_none_of_absent {ν : Type} {m : AList Str ν} {k : Str} (h : k ∉ m.map (·.1)) :
    AList.lookup m k = none :=
  AList.lookup_of_not_mem h

theorem mem_keys_of_lookup {ν : Type} {m : AList Str ν} {k : Str} {v : ν}
    (h : AList.lookup m k = some v) : k ∈ m.map (·.1) :=
  List.mem_map.mpr ⟨_, AList.mem_of_lookup h, rfl⟩

theorem filter_insert_rejected {m : AList Str Str} (q : Str → Bool) {k : Str} (v : Str)
    (hq : q k = false) :
    (AList.insert m k v).filter (fun x => q x.1) = m.filter (fun x => q x.1) := by
  induction m with
  | nil => simp [AList.insert, hq]
  | cons x r ih =>
    obtain ⟨k', v'⟩ := x
    by_cases hk : k' = k
    · subst hk; simp [AList.insert, hq]
    · simp [AList.insert, hk, List.filter_cons, ih]

theorem nameOf_render (n v : Str) (h : '=' ∉ n) : nameOf (n ++ '=' :: v) = n :=
  nameOf_of_split (splitEq_render n v h)

theorem map_nameOf_render {acc : AList Str Str} (h : NoEq acc) :
    (render acc).map nameOf = acc.map (·.1) := by
  rw [render, List.map_map]
  exact List.map_congr_left fun x hx => nameOf_render x.1 x.2 (h x hx)

theorem filter_render {acc : AList Str Str} (h : NoEq acc) (q : Str → Bool) :
    (render acc).filter (fun e => q (nameOf e)) = render (acc.filter (fun x => q x.1)) := by
  induction acc with
  | nil => rfl
  | cons x r ih =>
    obtain ⟨n, v⟩ := x
    have hn : '=' ∉ n := h (n, v) (by simp)
    have hr : NoEq r := fun y hy => h y (List.mem_cons_of_mem _ hy)
    have ih := ih hr
    simp only [render, List.map_cons, List.filter_cons, nameOf_render n v hn] at ih ⊢
    cases q n <;> simp [ih]

def GoodAcc (acc : AList Str Str) : Prop :=
  (acc.map (·.1)).Nodup ∧ (∀ x ∈ acc, x.1 ≠ []) ∧ NoEq acc

/-- Well-formed original environment: `NAME=value`, names non-empty and distinct. -/
structure WF (old : List Str) : Prop where
  split : ∀ e ∈ old, ∃ n v, splitEq e = some (n, v) ∧ n ≠ []
  nodup : (old.map nameOf).Nodup

theorem WF.tail {e : Str} {r : List Str} (h : WF (e :: r)) : WF r :=
  ⟨fun x hx => h.split x (List.mem_cons_of_mem _ hx), (List.nodup_cons.mp h.nodup).2⟩

theorem wf_render {acc : AList Str Str} (h : GoodAcc acc) : WF (render acc) := by
  obtain ⟨hnd, hne, hnoeq⟩ := h
  refine ⟨fun e he => ?_, map_nameOf_render hnoeq ▸ hnd⟩
  obtain ⟨x, hx, rfl⟩ := List.mem_map.mp he
  exact ⟨x.1, x.2, splitEq_render x.1 x.2 (hnoeq x hx), hne x hx⟩

theorem WF.exists_render {old : List Str} (h : WF old) : ∃ acc, GoodAcc acc ∧ old = render acc := by
  induction old with
  | nil => exact ⟨[], ⟨List.nodup_nil, nofun, nofun⟩, rfl⟩
  | cons e r ih =>
    obtain ⟨n, v, hs, hn⟩ := h.split e (List.mem_cons_self ..)
    obtain ⟨acc, ⟨_, h2, h3⟩, rfl⟩ := ih h.tail
    obtain ⟨he, hne⟩ := splitEq_some hs
    have hnd := h.nodup
    rw [List.map_cons, nameOf_of_split hs, map_nameOf_render h3] at hnd
    exact ⟨(n, v) :: acc, ⟨hnd, List.forall_mem_cons.mpr ⟨hn, h2⟩, List.forall_mem_cons.mpr ⟨hne, h3⟩⟩,
      by rw [he]; rfl⟩

theorem WF.eq_of_lookup {l : List Str} (hwf : WF l) {x v : Str} (hx : x ∈ l)
    (hl : lookup l (nameOf x) = some v) : x = nameOf x ++ '=' :: v := by
  obtain ⟨acc, ⟨hnd, h2, hnoeq⟩, rfl⟩ := hwf.exists_render
  obtain ⟨p, hp, rfl⟩ := List.mem_map.mp hx
  rw [nameOf_render p.1 p.2 (hnoeq p hp)] at hl ⊢
  rw [lookup_render hnoeq, AList.lookup_of_mem hnd hp] at hl
  rw [Option.some.inj hl]

theorem lookup_filterMap {f : Str × Str → Option (Str × Str)} (hf : ∀ p q, f p = some q → q.1 = p.1)
    {l : AList Str Str} (hn : (l.map (·.1)).Nodup) (k : Str) :
    AList.lookup (l.filterMap f) k = (AList.lookup l k).bind fun v => (f (k, v)).map (·.2) := by
  induction l with
  | nil => rfl
  | cons p r ih =>
    obtain ⟨n, v⟩ := p
    rw [List.map_cons, List.nodup_cons] at hn
    have ih := ih hn.2
    by_cases hk : n = k
    · subst hk
      rw [lookup_none_of_absent hn.1] at ih
      cases hfp : f (n, v) with
      | none => simpa [AList.lookup, hfp] using ih
      | some q =>
        have := hf _ _ hfp
        obtain ⟨n', v'⟩ := q
        simp only at this
        simp [AList.lookup, hfp, this]
    · cases hfp : f (n, v) with
      | none => simpa [AList.lookup, hfp, hk] using ih
      | some q =>
        have := hf _ _ hfp
        obtain ⟨n', v'⟩ := q
        simp only at this
        simpa [AList.lookup, hfp, hk, this] using ih

def ModOK (md : AList Str KeyValue) : Prop :=
  ∀ n m, AList.lookup md n = some m → stripMarker m.key = n

def setsKey (k : Str) (e : KeyValue) : Bool := !isMarked e.key && e.key == k
def removes (k : Str) (e : KeyValue) : Bool := isMarked e.key && stripMarker e.key == k

theorem lookup_modUnfixed (L : List KeyValue) (k : Str) :
    AList.lookup (modUnfixed L) k = lastMatch (fun e => stripMarker e.key == k) L := by
  unfold modUnfixed
  rw [lookup_foldl_ins (fun e => stripMarker e.key) (fun e => e) L [] k, AList.lookup_nil]
  cases lastMatch (fun e => stripMarker e.key == k) L <;> rfl

theorem lookup_mod (env : List KeyValue) (k : Str) :
    AList.lookup (mod env) k =
      match lastMatch (setsKey k) env with
      | some e => some e
      | none => lastMatch (removes k) env := by
  unfold mod removalsFirst
  rw [lookup_modUnfixed, lastMatch_append, lastMatch_filter, lastMatch_filter]
  have h1 : (fun e : KeyValue => (!isMarked e.key) && stripMarker e.key == k) = setsKey k := by
    funext e
    unfold setsKey
    cases hm : isMarked e.key
    · simp [strip_of_not_marked hm]
    · simp
  have h2 : (fun e : KeyValue => isMarked e.key && stripMarker e.key == k) = removes k := rfl
  rw [h1, h2]
  cases lastMatch (setsKey k) env <;> rfl

theorem modOK (env : List KeyValue) : ModOK (mod env) := by
  intro n m h
  rw [mod, lookup_modUnfixed] at h
  simpa using (lastMatch_some h).2

/-- what phase 1 does with one original entry `n=v` (under `ModOK`, where an unmarked entry of
    `mod` found under `n` has key `n`) -/
def keep (md : AList Str KeyValue) (p : Str × Str) : Option (Str × Str) :=
  match AList.lookup md p.1 with
  | some m => if isMarked m.key then none else some (p.1, m.value)
  | none => some p

theorem keep_fst {md : AList Str KeyValue} (p q : Str × Str) (h : keep md p = some q) : q.1 = p.1 := by
  unfold keep at h
  split at h
  · split at h
    · cases h
    · cases h; rfl
  · cases h; rfl

theorem filterMap_congr_of_mem {α β : Type} {f g : α → Option β} {l : List α}
    (h : ∀ x ∈ l, f x = g x) : l.filterMap f = l.filterMap g := by
  induction l with
  | nil => rfl
  | cons a r ih =>
    rw [List.filterMap_cons, List.filterMap_cons, h a (List.mem_cons_self ..),
      ih fun x hx => h x (List.mem_cons_of_mem _ hx)]

theorem render_cons (n v : Str) (r : AList Str Str) :
    render ((n, v) :: r) = (n ++ '=' :: v) :: render r := rfl

/-- Phase 1 on a rendered state: the entries are kept or replaced in place (`keep`), and `mod`
    loses exactly the names it was asked for. -/
theorem phase1_render (old : AList Str Str) (md : AList Str KeyValue) (acc : AList Str Str)
    (hold : GoodAcc old) (hdisj : ∀ p ∈ old, p.1 ∉ acc.map (·.1)) (hmod : ModOK md) :
    (phase1 (md, acc) (render old)).2 = acc ++ old.filterMap (keep md) ∧
    ∀ k, AList.lookup (phase1 (md, acc) (render old)).1 k =
      if (AList.lookup old k).isSome then none else AList.lookup md k := by
  induction old generalizing md acc with
  | nil => simp [render, phase1]
  | cons p r ih =>
    obtain ⟨n, v⟩ := p
    obtain ⟨hnd, hne, hnoeq⟩ := hold
    rw [List.map_cons, List.nodup_cons] at hnd
    have hr : GoodAcc r := ⟨hnd.2, fun x hx => hne x (List.mem_cons_of_mem _ hx),
      fun x hx => hnoeq x (List.mem_cons_of_mem _ hx)⟩
    have hn : n ≠ [] := hne (n, v) (List.mem_cons_self ..)
    have hacc : n ∉ acc.map (·.1) := hdisj (n, v) (List.mem_cons_self ..)
    -- after `n` has been appended the remaining names are still fresh
    have hdisj' : ∀ x : Str, ∀ p ∈ r, p.1 ∉ (acc ++ [(n, x)]).map (·.1) := by
      intro x p hp
      simp only [List.map_append, List.map_cons, List.map_nil, List.mem_append, List.mem_singleton, not_or]
      exact ⟨hdisj p (List.mem_cons_of_mem _ hp), fun h => hnd.1 (List.mem_map.mpr ⟨p, hp, h⟩)⟩
    have hadd : ∀ x, addProcessEnv acc n x = acc ++ [(n, x)] := fun x => by
      rw [addProcessEnv, if_neg hn, AList.insert_of_not_mem x hacc]
    rw [render_cons, phase1, splitEq_render n v (hnoeq (n, v) (List.mem_cons_self ..))]
    simp only [List.filterMap_cons, keep, AList.lookup]
    cases hl : AList.lookup md n with
    | none =>
      obtain ⟨h1, h2⟩ := ih md _ hr (hdisj' v) hmod
      simp only [hadd]
      refine ⟨by rw [h1, List.append_assoc]; rfl, fun k => ?_⟩
      rw [h2]
      by_cases hk : n = k
      · subst hk; simp [hl]
      · simp [hk]
    | some m =>
      have hmod' : ModOK (AList.erase md n) := fun n' m' h' => by
        by_cases hnn : n = n'
        · subst hnn; rw [AList.lookup_erase_self] at h'; cases h'
        · rw [AList.lookup_erase_other _ _ _ hnn] at h'; exact hmod n' m' h'
      have hcongr : r.filterMap (keep (AList.erase md n)) = r.filterMap (keep md) := by
        refine filterMap_congr_of_mem fun p hp => ?_
        have : n ≠ p.1 := fun h => hnd.1 (List.mem_map.mpr ⟨p, hp, h.symm⟩)
        rw [keep, keep, AList.lookup_erase_other _ _ _ this]
      have hfst : ∀ acc' k, (∀ p ∈ r, p.1 ∉ acc'.map (·.1)) →
          AList.lookup (phase1 (AList.erase md n, acc') (render r)).1 k =
            if (if n = k then some v else AList.lookup r k).isSome then none else AList.lookup md k := by
        intro acc' k hd
        rw [(ih _ acc' hr hd hmod').2]
        by_cases hk : n = k
        · subst hk; simp [AList.lookup_erase_self]
        · simp [hk, AList.lookup_erase_other _ _ _ hk]
      simp only
      cases hmk : isMarked m.key with
      | true =>
        have hd : ∀ p ∈ r, p.1 ∉ acc.map (·.1) := fun p hp => hdisj p (List.mem_cons_of_mem _ hp)
        simp only [if_true]
        exact ⟨by rw [(ih _ acc hr hd hmod').1, hcongr], fun k => hfst acc k hd⟩
      | false =>
        have hkey : m.key = n := strip_of_not_marked hmk ▸ hmod n m hl
        simp only [Bool.false_eq_true, if_false, hkey, hadd]
        exact ⟨by rw [(ih _ _ hr (hdisj' _) hmod').1, hcongr, List.append_assoc]; rfl,
          fun k => hfst _ k (hdisj' _)⟩

theorem filter_filterMap_keep (old : AList Str Str) (md : AList Str KeyValue) (q : Str → Bool)
    (hq : ∀ p ∈ old, q p.1 = true → AList.lookup md p.1 = none) :
    (old.filterMap (keep md)).filter (fun x => q x.1) = old.filter (fun x => q x.1) := by
  induction old with
  | nil => rfl
  | cons p r ih =>
    have ih := ih fun x hx => hq x (List.mem_cons_of_mem _ hx)
    rw [List.filterMap_cons, List.filter_cons]
    cases hqp : q p.1 with
    | true =>
      have : keep md p = some p := by rw [keep, hq p (List.mem_cons_self ..) hqp]
      simp [this, hqp, ih]
    | false =>
      cases hk : keep md p with
      | none => simpa using ih
      | some x => simpa [keep_fst p x hk, hqp] using ih

theorem keys_filterMap_sublist {f : Str × Str → Option (Str × Str)}
    (hf : ∀ p q, f p = some q → q.1 = p.1) (l : AList Str Str) :
    ((l.filterMap f).map (·.1)).Sublist (l.map (·.1)) := by
  induction l with
  | nil => exact .slnil
  | cons p r ih =>
    cases hk : f p with
    | none => simpa only [List.filterMap_cons, hk, List.map_cons] using ih.cons _
    | some x => simpa only [List.filterMap_cons, hk, List.map_cons, hf p x hk] using ih.cons_cons _

theorem goodAcc_filterMap_keep {old : AList Str Str} (md : AList Str KeyValue) (h : GoodAcc old) :
    GoodAcc (old.filterMap (keep md)) := by
  have hmem : ∀ x ∈ old.filterMap (keep md), ∃ p ∈ old, x.1 = p.1 := fun x hx =>
    let ⟨p, hp, hk⟩ := List.mem_filterMap.mp hx
    ⟨p, hp, keep_fst p x hk⟩
  refine ⟨(keys_filterMap_sublist keep_fst old).nodup h.1, fun x hx => ?_, fun x hx => ?_⟩
  · obtain ⟨p, hp, hx⟩ := hmem x hx
    exact hx ▸ h.2.1 p hp
  · obtain ⟨p, hp, hx⟩ := hmem x hx
    exact hx ▸ h.2.2 p hp

theorem phase2_eq (md : AList Str KeyValue) (acc : AList Str Str) (env : List KeyValue) :
    phase2 md acc env =
      env.foldl (fun acc e =>
        if (!isMarked e.key && AList.contains md e.key && !(e.key == [])) then AList.insert acc e.key e.value
        else acc) acc := by
  unfold phase2
  congr 1
  funext acc e
  cases hm : isMarked e.key
  · cases hc : AList.contains md e.key
    · simp
    · -- `AddProcessEnv` ignores the empty name
      by_cases he : e.key = [] <;> simp [addProcessEnv, he]
  · simp

theorem lookup_phase2 (md : AList Str KeyValue) (acc : AList Str Str) (env : List KeyValue) (k : Str) :
    AList.lookup (phase2 md acc env) k =
      pick (lastMatch (fun e => (!isMarked e.key && AList.contains md e.key && !(e.key == [])) && e.key == k) env)
        (·.value) (AList.lookup acc k) := by
  rw [phase2_eq]
  exact lookup_foldl_insert _ (fun e => e.key) (fun e => e.value) env acc k

theorem phase2_guard {md : AList Str KeyValue} {e : KeyValue}
    (hc : (!isMarked e.key && AList.contains md e.key && !(e.key == [])) = true) :
    isMarked e.key = false ∧ e.key ≠ [] := by
  simp only [Bool.and_eq_true, Bool.not_eq_true', beq_eq_false_iff_ne] at hc
  exact ⟨hc.1.1, hc.2⟩

theorem filter_phase2 (md : AList Str KeyValue) (acc : AList Str Str) (env : List KeyValue)
    (q : Str → Bool) (hq : ∀ e ∈ env, q (stripMarker e.key) = false) :
    (phase2 md acc env).filter (fun x => q x.1) = acc.filter (fun x => q x.1) := by
  rw [phase2_eq]
  refine List.foldlRecOn (motive := fun m : AList Str Str => m.filter (fun x => q x.1) = _) env _ rfl
    fun m hm e he => ?_
  split
  · rename_i hc
    rw [filter_insert_rejected q _ (strip_of_not_marked (phase2_guard hc).1 ▸ hq e he), hm]
  · exact hm

theorem goodAcc_phase2 (md : AList Str KeyValue) (acc : AList Str Str) (env : List KeyValue)
    (hacc : GoodAcc acc) (henv : ∀ e ∈ env, '=' ∉ stripMarker e.key) : GoodAcc (phase2 md acc env) := by
  rw [phase2_eq]
  refine List.foldlRecOn (motive := GoodAcc) env _ hacc fun m hm e he => ?_
  split
  · rename_i hc
    obtain ⟨hmk, hne⟩ := phase2_guard hc
    refine ⟨AList.keys_insert_nodup _ _ hm.1, fun x hx => ?_, fun x hx => ?_⟩
    · rcases AList.mem_insert hx with hx | hx
      · rw [hx]; exact hne
      · exact hm.2.1 x hx
    · rcases AList.mem_insert hx with hx | hx
      · rw [hx]; exact strip_of_not_marked hmk ▸ henv e he
      · exact hm.2.2 x hx
  · exact hm

/-- The generator state at the end of the repaired `AdjustEnv` (non-empty adjustment). -/
def finalAcc (old : List Str) (env : List KeyValue) : AList Str Str :=
  let st := phase1 (mod env, []) old
  phase2 st.1 st.2 env

theorem apply_eq (old : List Str) (env : List KeyValue) (h : env ≠ []) :
    apply old env = render (finalAcc old env) := by
  unfold apply applyWith finalAcc
  cases env with
  | nil => exact absurd rfl h
  | cons e r => simp

theorem finalAcc_render {st : AList Str Str} (env : List KeyValue) (hold : GoodAcc st) :
    finalAcc (render st) env =
      phase2 (phase1 (mod env, []) (render st)).1 (st.filterMap (keep (mod env))) env := by
  unfold finalAcc
  simp only
  rw [(phase1_render st _ [] hold (by simp) (modOK env)).1, List.nil_append]

theorem goodAcc_finalAcc {st : AList Str Str} (env : List KeyValue) (hold : GoodAcc st) (hkeys : ∀ e ∈ env, '=' ∉ stripMarker e.key) :
    GoodAcc (finalAcc (render st) env) := by
  rw [finalAcc_render env hold]
  exact goodAcc_phase2 _ _ _ (goodAcc_filterMap_keep _ hold) hkeys

/-- What `Env.lookup` returns after the repaired `AdjustEnv`, for every name `k ≠ ""`: the closed
    form shared with the other keyed families. -/
theorem lookup_apply (old : List Str) (env : List KeyValue) (hwf : WF old)
    (hkeys : ∀ e ∈ env, '=' ∉ stripMarker e.key) (k : Str) (hk : k ≠ []) :
    lookup (apply old env) k = requested KeyValue.key KeyValue.value env k (lookup old k) := by
  by_cases hne : env = []
  · subst hne; rfl
  obtain ⟨old, hold, rfl⟩ := hwf.exists_render
  rw [apply_eq _ env hne, lookup_render (goodAcc_finalAcc env hold hkeys).2.2, lookup_render hold.2.2,
    finalAcc_render env hold, lookup_phase2, lookup_filterMap keep_fst hold.1]
  -- the entries phase 2 appends for `k`: the sets of `k`, if `k` is still in `mod`
  have hq : (fun e : KeyValue => (!isMarked e.key && AList.contains (phase1 (mod env, []) (render old)).1 e.key && !(e.key == [])) && e.key == k)
      = fun e => AList.contains (phase1 (mod env, []) (render old)).1 k && setsKey k e := by
    funext e
    unfold setsKey
    by_cases hek : e.key = k
    · subst hek
      have : (e.key == ([] : Str)) = false := by simpa using hk
      simp [this, Bool.and_comm]
    · have : (e.key == k) = false := by simpa using hek
      simp [this]
  rw [hq, lastMatch_and_const, AList.contains, (phase1_render old _ [] hold (by simp) (modOK env)).2 k]
  show _ = pick (lastMatch (setsKey k) env) KeyValue.value (if env.any (removes k) then none else _)
  rw [any_eq_lastMatch_isSome]
  cases hS : lastMatch (setsKey k) env with
  | some e =>
    -- `k` is set, last by `e`, which `mod` holds under `k`.  An original entry of `k` is replaced in
    -- place by phase 1 (and `k` leaves `mod`, so phase 2 adds nothing); without one, `k` is still in
    -- `mod` and phase 2 appends the sets of `k`, the last one staying.
    have hm : isMarked e.key = false := by
      have := (lastMatch_some hS).2
      simp only [setsKey, Bool.and_eq_true, Bool.not_eq_true'] at this
      exact this.1
    cases AList.lookup old k <;> simp [keep, lookup_mod, hS, hm]
  | none =>
    cases hR : lastMatch (removes k) env with
    | some e =>
      -- `k` is only removed: `mod` holds the marker `e` under `k`; phase 1 drops an original entry of
      -- `k`, and phase 2 appends unmarked entries only.
      have hm : isMarked e.key = true := by
        have := (lastMatch_some hR).2
        simp only [removes, Bool.and_eq_true] at this
        exact this.1
      cases AList.lookup old k <;> simp [keep, lookup_mod, hS, hR, hm]
    | none =>
      -- `k` is not named: `mod` has nothing under `k`, phase 1 keeps an original entry as it is
      cases AList.lookup old k <;> simp [keep, lookup_mod, hS, hR]

theorem lookup_mod_none {env : List KeyValue} {k : Str} (h : ∀ e ∈ env, stripMarker e.key ≠ k) :
    AList.lookup (mod env) k = none := by
  rw [lookup_mod]
  have h1 : lastMatch (setsKey k) env = none := by
    rw [lastMatch_none_iff]; intro e he
    cases hm : isMarked e.key
    · have := h e he; rw [strip_of_not_marked hm] at this
      simp [setsKey, hm, this]
    · simp [setsKey, hm]
  have h2 : lastMatch (removes k) env = none := by
    rw [lastMatch_none_iff]; intro e he
    have := h e he
    simp [removes, this]
  rw [h1, h2]

/-- Entries whose names the adjustment does not mention come out unchanged and in their
    original relative order. -/
theorem filter_apply (old : List Str) (env : List KeyValue) (hwf : WF old)
    (hkeys : ∀ e ∈ env, '=' ∉ stripMarker e.key) :
    (apply old env).filter (fun e => !(env.map fun x => stripMarker x.key).contains (nameOf e)) =
      old.filter (fun e => !(env.map fun x => stripMarker x.key).contains (nameOf e)) := by
  by_cases hne : env = []
  · subst hne; rfl
  obtain ⟨old, hold, rfl⟩ := hwf.exists_render
  have hq := named_rejected KeyValue.key env
  rw [apply_eq _ env hne, finalAcc_render env hold,
    filter_render (goodAcc_phase2 _ _ _ (goodAcc_filterMap_keep _ hold) hkeys).2.2
      (fun n => !(env.map fun x => stripMarker x.key).contains n),
    filter_render hold.2.2 (fun n => !(env.map fun x => stripMarker x.key).contains n),
    filter_phase2 _ _ _ (fun n => !(env.map fun x => stripMarker x.key).contains n) hq,
    filter_filterMap_keep _ _ (fun n => !(env.map fun x => stripMarker x.key).contains n)]
  intro p _ hqp
  exact lookup_mod_none fun x hx hxe => by
    have := hq x hx
    rw [hxe, hqp] at this
    cases this

/-- `AdjustEnv` maps a well-formed environment to a well-formed environment. -/
theorem wf_apply (old : List Str) (env : List KeyValue) (hwf : WF old)
    (hkeys : ∀ e ∈ env, '=' ∉ stripMarker e.key) : WF (apply old env) := by
  by_cases hne : env = []
  · subst hne; exact hwf
  obtain ⟨old, hold, rfl⟩ := hwf.exists_render
  rw [apply_eq _ env hne]
  exact wf_render (goodAcc_finalAcc env hold hkeys)

end Env
end Nri.Generate
