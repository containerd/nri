/-
`Generator.Adjust` family by family: when `adjust` succeeds, every modelled field of the result is
the corresponding core function applied to the same field of the original spec and the matching
part of the adjustment (`AdjustOk`, `adjust_ok`), i.e. the families do not interfere; this lifts the
per-family lemmas to theorems about `adjust`.  It follows from the stage equations of `Adjust`, as
does the closed form of the result for the recording injector (`adjust_eq`).  Last: how the result
depends on the iteration orders of the two Go maps.
-/
import NriModel.GenerateOptions
import NriModel.Lemmas.GenerateAnnotations

namespace Nri.Generate
open Nri.Api
open Nri.Oci (Spec)

/-- Assumption on the (external) CDI injector for the frame theorems: it may only touch the
    ghost field `cdi` of the model.  (A real injector edits devices, mounts, env and hooks of
    the spec; for such an injector the per-family theorems apply to the spec it returns.) -/
def Externals.CDIFramed (ext : Externals) : Prop :=
  ∀ inj, ext.injectCDI = some inj → ∀ s names s', inj s names = .ok s' → s' = { s with cdi := s'.cdi }

theorem recordingInjector_framed (bad : List Str) (s : Spec) (names : List Str) (s' : Spec)
    (h : recordingInjector bad s names = .ok s') : s' = { s with cdi := s'.cdi } := by
  unfold recordingInjector at h
  split at h
  · cases h
  · cases h; rfl

theorem injectCDI_framed {ext : Externals} (hext : ext.CDIFramed) {s s' : Spec} {names : List Str}
    (h : injectCDI ext s names = .ok s') : s' = { s with cdi := s'.cdi } := by
  unfold injectCDI at h
  split at h
  · cases h; rfl
  · rename_i inj hinj
    split at h
    · cases h; rfl
    · split at h
      · rename_i s1 hs1
        cases h
        exact hext inj hinj s names _ hs1
      · cases h

namespace Resources

def cpuAfter (c : Oci.CPU) (r : Option LinuxResources) : Oci.CPU :=
  match r with
  | some r => (match r.cpu with | some x => applyCpu c x | none => c)
  | none => c

def memoryAfter (m : Oci.Memory) (r : Option LinuxResources) : Oci.Memory :=
  match r with
  | some r => (match r.memory with | some x => applyMemory m x | none => m)
  | none => m

def hugepagesAfter (l : List Oci.HugepageLimit) (r : Option LinuxResources) : List Oci.HugepageLimit :=
  match r with | some r => applyHugepages l r.hugepageLimits | none => l

def unifiedAfter (u : AList Str Str) (r : Option LinuxResources) : AList Str Str :=
  match r with | some r => applyUnified u r.unified | none => u

def pidsAfter (p : Option Int) (r : Option LinuxResources) : Option Int :=
  match r with | some r => (match r.pids with | some v => some v | none => p) | none => p

/-- `applyCpu`, declaratively: a field the adjustment carries replaces the old value. -/
def cpuSet (c : Oci.CPU) (r : LinuxCPU) : Oci.CPU :=
  { shares := (match r.shares with | some v => some v | none => c.shares)
    quota := (match r.quota with | some v => some v | none => c.quota)
    period := (match r.period with | some v => some v | none => c.period)
    realtimeRuntime := (match r.realtimeRuntime with | some v => some v | none => c.realtimeRuntime)
    realtimePeriod := (match r.realtimePeriod with | some v => some v | none => c.realtimePeriod)
    cpus := (if r.cpus = [] then c.cpus else r.cpus)
    mems := (if r.mems = [] then c.mems else r.mems) }

theorem applyCpu_eq (c : Oci.CPU) (r : LinuxCPU) : applyCpu c r = cpuSet c r := by
  obtain ⟨sh, qu, pe, rr, rp, cpus, mems⟩ := r
  -- Guard by guard, the last call first: a guard that fires sets its field on what the calls
  -- before it leave.  One guard at a time, so that the cases add up instead of multiplying.
  suffices h : applyCpu c ⟨sh, qu, pe, rr, none, cpus, mems⟩ = cpuSet c ⟨sh, qu, pe, rr, none, cpus, mems⟩ by
    cases rp with
    | none => exact h
    | some v => exact congrArg (fun x : Oci.CPU => { x with realtimePeriod := some v }) h
  suffices h : applyCpu c ⟨sh, qu, pe, none, none, cpus, mems⟩ = cpuSet c ⟨sh, qu, pe, none, none, cpus, mems⟩ by
    cases rr with
    | none => exact h
    | some v => exact congrArg (fun x : Oci.CPU => { x with realtimeRuntime := some v }) h
  suffices h : applyCpu c ⟨sh, qu, pe, none, none, cpus, []⟩ = cpuSet c ⟨sh, qu, pe, none, none, cpus, []⟩ by
    cases mems with
    | nil => exact h
    | cons a t => exact congrArg (fun x : Oci.CPU => { x with mems := a :: t }) h
  suffices h : applyCpu c ⟨sh, qu, pe, none, none, [], []⟩ = cpuSet c ⟨sh, qu, pe, none, none, [], []⟩ by
    cases cpus with
    | nil => exact h
    | cons a t => exact congrArg (fun x : Oci.CPU => { x with cpus := a :: t }) h
  suffices h : applyCpu c ⟨none, qu, pe, none, none, [], []⟩ = cpuSet c ⟨none, qu, pe, none, none, [], []⟩ by
    cases sh with
    | none => exact h
    | some v => exact congrArg (fun x : Oci.CPU => { x with shares := some v }) h
  cases qu <;> cases pe <;> rfl
/-- limit of a page size in a hugepage list (first entry) -/
def hfind (k : Str) (l : List Oci.HugepageLimit) : Option Nat :=
  (l.find? (fun h => h.pageSize == k)).map (·.limit)

theorem hfind_addHugepage (l : List Oci.HugepageLimit) (h : Api.HugepageLimit) (k : Str) :
    hfind k (addHugepage l h) = if h.pageSize = k then some h.limit else hfind k l := by
  induction l with
  | nil =>
    by_cases hk : h.pageSize = k <;> simp [addHugepage, hfind, hk]
  | cons x r ih =>
    unfold addHugepage
    by_cases hx : x.pageSize = h.pageSize
    · by_cases hk : h.pageSize = k
      · simp [hx, hk, hfind]
      · have hxk : ¬ x.pageSize = k := by rw [hx]; exact hk
        simp [hx, hk, hfind]
    · simp only [hx, if_false]
      by_cases hxk : x.pageSize = k
      · have hk : ¬ h.pageSize = k := by intro hk; exact hx (hxk.trans hk.symm)
        simp [hfind, hxk, hk]
      · have hb : (x.pageSize == k) = false := by simpa using hxk
        unfold hfind at ih ⊢
        simp only [List.find?_cons, hb]
        exact ih

theorem hfind_applyHugepages (l : List Oci.HugepageLimit) (hs : List Api.HugepageLimit) (k : Str) :
    hfind k (applyHugepages l hs) =
      pick (lastMatch (fun h : Api.HugepageLimit => h.pageSize == k) hs) (·.limit) (hfind k l) := by
  unfold applyHugepages
  exact look_foldl (hfind k) addHugepage (fun h => h.pageSize == k) (·.limit)
    (fun l h => by simp [hfind_addHugepage]) hs l

end Resources

/-- Everything `adjust` does, field by field. -/
structure AdjustOk (ext : Externals) (s : Spec) (a : Adjustment) (s' : Spec) : Prop where
  annotations : s'.annotations = Annotations.apply s.annotations a.annotations
  env : s'.env = Env.apply s.env a.env
  args : s'.args = Args.apply s.args a.args
  hooks : s'.hooks = (match a.hooks with | some h => Hooks.apply s.hooks h | none => s.hooks)
  devices : (s'.devices, s'.devRules) = Devices.apply (s.devices, s.devRules) a.linuxDevices
  cgroupsPath : s'.cgroupsPath = (if a.cgroupsPath = [] then s.cgroupsPath else a.cgroupsPath)
  oomScoreAdj : s'.oomScoreAdj = (match a.oomScoreAdj with | some v => some v | none => s.oomScoreAdj)
  cpu : s'.cpu = Resources.cpuAfter s.cpu a.resources
  memory : s'.memory = Resources.memoryAfter s.memory a.resources
  hugepages : s'.hugepages = Resources.hugepagesAfter s.hugepages a.resources
  unified : s'.unified = Resources.unifiedAfter s.unified a.resources
  pids : s'.pids = Resources.pidsAfter s.pids a.resources
  mounts : Mounts.apply ext.hostPropagation s.mounts s.rootfsPropagation a.mounts
            = .ok (s'.mounts, s'.rootfsPropagation)
  rlimits : s'.rlimits = s.rlimits ++ a.rlimits.map POSIXRlimit.toOCI
  /-- the injector saw the spec with annotations, env, args and hooks already adjusted and
      nothing else, and `cdi` is what it left -/
  cdi : ∃ s1, injectCDI ext
          (adjustHooks (adjustArgs (adjustEnv (adjustAnnotations s a.annotations) a.env) a.args) a.hooks)
          a.cdiDevices = .ok s1 ∧ s'.cdi = s1.cdi
  blockio : Resources.applyBlockIO ext.resolveBlockIO s.blockio a.blockioClass = .ok s'.blockio
  rdt : Resources.applyRdt ext.resolveRdt s.rdt a.rdtClass = .ok s'.rdt

theorem adjustResources_fields (s : Spec) (r : Option LinuxResources) :
    adjustResources s r =
      { s with cpu := Resources.cpuAfter s.cpu r, memory := Resources.memoryAfter s.memory r,
               hugepages := Resources.hugepagesAfter s.hugepages r,
               unified := Resources.unifiedAfter s.unified r, pids := Resources.pidsAfter s.pids r } := by
  cases r with
  | none => rfl
  | some r =>
    obtain ⟨mem, cpu, hl, bc, rc, un, pids⟩ := r
    cases cpu <;> cases mem <;> cases pids <;> rfl

theorem pre_fields (s : Spec) (a : Adjustment) :
    adjustHooks (adjustArgs (adjustEnv (adjustAnnotations s a.annotations) a.env) a.args) a.hooks =
      { s with annotations := Annotations.apply s.annotations a.annotations,
               env := Env.apply s.env a.env, args := Args.apply s.args a.args,
               hooks := (match a.hooks with | some h => Hooks.apply s.hooks h | none => s.hooks) } := by
  cases a.hooks <;> rfl

theorem mid_fields (s : Spec) (L : List LinuxDevice) (p : Str) (o : Option Int) :
    adjustOomScoreAdj (adjustCgroupsPath (adjustDevices s L) p) o =
      { s with devices := (Devices.apply (s.devices, s.devRules) L).1,
               devRules := (Devices.apply (s.devices, s.devRules) L).2,
               cgroupsPath := (if p = [] then s.cgroupsPath else p),
               oomScoreAdj := (match o with | some v => some v | none => s.oomScoreAdj) } := by
  unfold adjustCgroupsPath
  split <;> cases o <;> rfl

def assemble (s : Spec) (a : Adjustment) (c : List Str) (b : Option Nat) (r : Option Str)
    (mp : List Oci.Mount × Str) : Spec :=
  { annotations := Annotations.apply s.annotations a.annotations
    args := Args.apply s.args a.args
    env := Env.apply s.env a.env
    rlimits := s.rlimits ++ a.rlimits.map POSIXRlimit.toOCI
    oomScoreAdj := (match a.oomScoreAdj with | some v => some v | none => s.oomScoreAdj)
    mounts := mp.1
    devices := (Devices.apply (s.devices, s.devRules) a.linuxDevices).1
    devRules := (Devices.apply (s.devices, s.devRules) a.linuxDevices).2
    cpu := Resources.cpuAfter s.cpu a.resources
    memory := Resources.memoryAfter s.memory a.resources
    hugepages := Resources.hugepagesAfter s.hugepages a.resources
    unified := Resources.unifiedAfter s.unified a.resources
    pids := Resources.pidsAfter s.pids a.resources
    blockio := b
    rdt := r
    cgroupsPath := (if a.cgroupsPath = [] then s.cgroupsPath else a.cgroupsPath)
    rootfsPropagation := mp.2
    hooks := (match a.hooks with | some h => Hooks.apply s.hooks h | none => s.hooks)
    cdi := c }

/-- what the recording injector (or no injector) leaves in `cdi` -/
def cdiAfter (hasInjector : Bool) (bad old names : List Str) : Except GenError (List Str) :=
  if !hasInjector || names.isEmpty then .ok old
  else if names.any (fun n => bad.contains n) then .error .cdi
  else .ok (old ++ names)

def preSpec (s : Spec) (a : Adjustment) (c : List Str) : Spec :=
  { s with annotations := Annotations.apply s.annotations a.annotations,
           env := Env.apply s.env a.env, args := Args.apply s.args a.args,
           hooks := (match a.hooks with | some h => Hooks.apply s.hooks h | none => s.hooks),
           cdi := c }

theorem pre_fields_preSpec (s : Spec) (a : Adjustment) :
    adjustHooks (adjustArgs (adjustEnv (adjustAnnotations s a.annotations) a.env) a.args) a.hooks =
      preSpec s a s.cdi := by
  rw [pre_fields]; rfl

theorem adjust_eq_pre_post (ext : Externals) (s : Spec) (a : Adjustment) :
    adjust ext s a = (adjustPre ext s a >>= fun s1 => adjustPost ext s1 a) := by
  unfold adjust adjustPre adjustPost
  simp only [bind, Except.bind, pure, Except.pure]
  cases injectCDI ext (adjustHooks (adjustArgs (adjustEnv (adjustAnnotations s a.annotations) a.env) a.args) a.hooks) a.cdiDevices <;> rfl

/-- The second half of `Adjust` reads the block-I/O parameters, the RDT class, the mounts and the
    rootfs propagation of the spec it starts from, and writes those and the rlimits. -/
theorem adjustPost_eq (ext : Externals) (s : Spec) (a : Adjustment) :
    adjustPost ext s a =
      match Resources.applyBlockIO ext.resolveBlockIO s.blockio a.blockioClass with
      | .error e => .error e
      | .ok b =>
        match Resources.applyRdt ext.resolveRdt s.rdt a.rdtClass with
        | .error e => .error e
        | .ok r =>
          match Mounts.apply ext.hostPropagation s.mounts s.rootfsPropagation a.mounts with
          | .error e => .error e
          | .ok mp => .ok { s with blockio := b, rdt := r, mounts := mp.1, rootfsPropagation := mp.2,
                                   rlimits := s.rlimits ++ a.rlimits.map POSIXRlimit.toOCI } := by
  unfold adjustPost adjustBlockIOClass adjustRdtClass adjustMounts adjustRlimits
  simp only [bind, Except.bind, pure, Except.pure]
  cases Resources.applyBlockIO ext.resolveBlockIO s.blockio a.blockioClass with
  | error e => rfl
  | ok b =>
    simp only
    cases Resources.applyRdt ext.resolveRdt s.rdt a.rdtClass with
    | error e => rfl
    | ok r =>
      simp only
      cases Mounts.apply ext.hostPropagation s.mounts s.rootfsPropagation a.mounts <;> rfl

variable {ext : Externals} {s : Spec} {a : Adjustment}

theorem adjust_of_cdi_error {e : GenError}
    (h : injectCDI ext (preSpec s a s.cdi) a.cdiDevices = .error e) : adjust ext s a = .error e := by
  rw [adjust_eq_pre_post, adjustPre]
  simp only [bind, Except.bind]
  rw [pre_fields_preSpec, h]

/-- `Adjust` from the injector's answer on, for an injector that has only written `cdi`: the
    fallible steps in their order, then the spec assembled from the per-family results. -/
theorem adjust_of_cdi {c : List Str}
    (h : injectCDI ext (preSpec s a s.cdi) a.cdiDevices = .ok (preSpec s a c)) :
    adjust ext s a =
      match Resources.applyBlockIO ext.resolveBlockIO s.blockio a.blockioClass with
      | .error e => .error e
      | .ok b =>
        match Resources.applyRdt ext.resolveRdt s.rdt a.rdtClass with
        | .error e => .error e
        | .ok r =>
          match Mounts.apply ext.hostPropagation s.mounts s.rootfsPropagation a.mounts with
          | .error e => .error e
          | .ok mp => .ok (assemble s a c b r mp) := by
  rw [adjust_eq_pre_post, adjustPre]
  simp only [bind, Except.bind, pure, Except.pure]
  rw [pre_fields_preSpec, h]
  simp only
  rw [mid_fields, adjustResources_fields, adjustPost_eq]
  simp only [preSpec]
  cases Resources.applyBlockIO ext.resolveBlockIO s.blockio a.blockioClass with
  | error e => rfl
  | ok b =>
    cases Resources.applyRdt ext.resolveRdt s.rdt a.rdtClass with
    | error e => rfl
    | ok r => cases Mounts.apply ext.hostPropagation s.mounts s.rootfsPropagation a.mounts <;> rfl

theorem adjust_ok {s' : Spec} (hext : ext.CDIFramed) (h : adjust ext s a = .ok s') :
    AdjustOk ext s a s' := by
  cases h1 : injectCDI ext (preSpec s a s.cdi) a.cdiDevices with
  | error e => rw [adjust_of_cdi_error h1] at h; cases h
  | ok s1 =>
    have hcdi := h1
    rw [← pre_fields_preSpec] at hcdi
    obtain ⟨c, rfl⟩ : ∃ c, s1 = preSpec s a c := ⟨s1.cdi, injectCDI_framed hext h1⟩
    rw [adjust_of_cdi h1] at h
    -- the three fallible steps in their order: block-I/O class, RDT class, mounts
    split at h
    · cases h
    rename_i b hb
    split at h
    · cases h
    rename_i r hr
    split at h
    · cases h
    rename_i mp hm
    cases h
    exact
      { annotations := rfl, env := rfl, args := rfl, hooks := rfl, devices := rfl, cgroupsPath := rfl,
        oomScoreAdj := rfl, cpu := rfl, memory := rfl, hugepages := rfl, unified := rfl, pids := rfl,
        mounts := hm, rlimits := rfl, cdi := ⟨_, hcdi, rfl⟩, blockio := hb, rdt := hr }

theorem injectCDI_recording {bad : List Str}
    (hi : ext.injectCDI = some (recordingInjector bad) ∨ ext.injectCDI = none) (s : Spec) (a : Adjustment) :
    injectCDI ext (preSpec s a s.cdi) a.cdiDevices =
      match cdiAfter ext.injectCDI.isSome bad s.cdi a.cdiDevices with
      | .error e => .error e
      | .ok c => .ok (preSpec s a c) := by
  unfold injectCDI cdiAfter
  rcases hi with hi | hi
  · rw [hi]
    simp only [Option.isSome_some, Bool.not_true, Bool.false_or]
    cases hn : a.cdiDevices.isEmpty
    · simp only [Bool.false_eq_true, if_false, recordingInjector]
      cases hb : a.cdiDevices.any (fun n => bad.contains n)
      · simp [preSpec]
      · simp
    · simp
  · rw [hi]; simp

theorem adjust_eq {bad : List Str}
    (hi : ext.injectCDI = some (recordingInjector bad) ∨ ext.injectCDI = none) (s : Spec) (a : Adjustment) :
    adjust ext s a =
      match cdiAfter ext.injectCDI.isSome bad s.cdi a.cdiDevices with
      | .error e => .error e
      | .ok c =>
        match Resources.applyBlockIO ext.resolveBlockIO s.blockio a.blockioClass with
        | .error e => .error e
        | .ok b =>
          match Resources.applyRdt ext.resolveRdt s.rdt a.rdtClass with
          | .error e => .error e
          | .ok r =>
            match Mounts.apply ext.hostPropagation s.mounts s.rootfsPropagation a.mounts with
            | .error e => .error e
            | .ok mp => .ok (assemble s a c b r mp) := by
  have hc := injectCDI_recording hi s a
  cases hcd : cdiAfter ext.injectCDI.isSome bad s.cdi a.cdiDevices with
  | error e => rw [hcd] at hc; exact adjust_of_cdi_error hc
  | ok c => rw [hcd] at hc; exact adjust_of_cdi hc

/-- the adjustment with its unified map given in another iteration order -/
def withUnified (a : Adjustment) (σ : AList Str Str) : Adjustment :=
  { a with linux := a.linux.map fun l => { l with resources := l.resources.map fun r => { r with unified := σ } } }

section Reorder
variable (a : Adjustment) (π σ : AList Str Str)

/-- What the fallible steps of `Adjust` read does not depend on how the two maps are listed. -/
theorem reorder_inputs :
    ({ withUnified a σ with annotations := π } : Adjustment).cdiDevices = a.cdiDevices ∧
    ({ withUnified a σ with annotations := π } : Adjustment).blockioClass = a.blockioClass ∧
    ({ withUnified a σ with annotations := π } : Adjustment).rdtClass = a.rdtClass ∧
    ({ withUnified a σ with annotations := π } : Adjustment).mounts = a.mounts := by
  obtain ⟨_, _, _, _, linux, _, _, _⟩ := a
  cases linux with
  | none => exact ⟨rfl, rfl, rfl, rfl⟩
  | some l =>
    obtain ⟨_, res, _, _⟩ := l
    cases res <;> exact ⟨rfl, rfl, rfl, rfl⟩

theorem assemble_reorder (s : Spec) (c : List Str) (b : Option Nat) (r : Option Str)
    (mp : List Oci.Mount × Str) :
    assemble s { withUnified a σ with annotations := π } c b r mp =
      { assemble s a c b r mp with
        annotations := Annotations.apply s.annotations π,
        unified := Resources.unifiedAfter s.unified (a.resources.map fun r => { r with unified := σ }) } := by
  obtain ⟨_, _, _, _, linux, _, _, _⟩ := a
  cases linux with
  | none => rfl
  | some l =>
    obtain ⟨_, res, _, _⟩ := l
    cases res <;> rfl

end Reorder

/-- An equality of results, not only of lookups. -/
theorem adjustOrders_eq (ext : Externals) (s : Spec) (a : Adjustment) (π1 π2 σ : List (Str × Str)) :
    adjustOrders ext s a π1 π2 σ =
      adjust ext s { withUnified a σ with annotations := Annotations.mergeOrders π1 π2 } := by
  unfold adjustOrders adjust adjustAnnotations
  rw [Annotations.applyOrders_eq_apply]
  obtain ⟨_, _, _, _, linux, _, _, _⟩ := a
  cases linux with
  | none => rfl
  | some l =>
    obtain ⟨_, res, _, _⟩ := l
    cases res <;> rfl

end Nri.Generate
