/-
Lemmas about the keyed-list operations of the generator model (`removeFirst`, `addOrReplace`,
`find`), the generic two-pass shape "all removals, then all sets" shared by the device and mount
families, and `requested`: what an entry list with removal markers leaves under one key, the
closed form in which all four keyed families (annotations, environment, devices, mounts) are
stated.
-/
import NriModel.Generate

namespace Nri.Generate
open Nri.Api

theorem eq_of_key_eq {ε κ : Type} (f : ε → κ) {L : List ε} (hn : (L.map f).Nodup) {x y : ε}
    (hx : x ∈ L) (hy : y ∈ L) (h : f x = f y) : x = y := by
  induction L with
  | nil => simp at hx
  | cons a r ih =>
    simp only [List.map_cons, List.nodup_cons] at hn
    rcases List.mem_cons.mp hx with hx | hx <;> rcases List.mem_cons.mp hy with hy | hy
    · rw [hx, hy]
    · exfalso; apply hn.1; rw [← hx, h]; exact List.mem_map.mpr ⟨y, hy, rfl⟩
    · exfalso; apply hn.1; rw [← hy, ← h]; exact List.mem_map.mpr ⟨x, hx, rfl⟩
    · exact ih hn.2 hx hy

section Keyed
variable {α : Type} (key : α → Str)

@[simp] theorem find_nil (k : Str) : find key k ([] : List α) = none := rfl

theorem find_cons (k : Str) (x : α) (l : List α) :
    find key k (x :: l) = if key x = k then some x else find key k l := by
  unfold find
  by_cases h : key x = k
  · simp [List.find?, h]
  · have : (key x == k) = false := by simpa using h
    simp [List.find?, this, h]

theorem find_append (k : Str) (l₁ l₂ : List α) :
    find key k (l₁ ++ l₂) = (find key k l₁).or (find key k l₂) := by
  unfold find; exact List.find?_append

theorem find_eq_none_iff (k : Str) (l : List α) :
    find key k l = none ↔ ∀ x ∈ l, key x ≠ k := by
  unfold find; simp [List.find?_eq_none]

theorem find_some_mem {k : Str} {l : List α} {x : α} (h : find key k l = some x) :
    x ∈ l ∧ key x = k := by
  unfold find at h
  have h1 := List.mem_of_find?_eq_some h
  have h2 := List.find?_some h
  exact ⟨h1, by simpa using h2⟩

theorem removeFirst_sublist (k : Str) (l : List α) : (removeFirst key k l).Sublist l := by
  induction l with
  | nil => exact List.Sublist.slnil
  | cons y r ih =>
    unfold removeFirst
    split
    · exact List.sublist_cons_self y r
    · exact ih.cons_cons y

theorem mem_removeFirst {k : Str} {l : List α} {x : α} (h : x ∈ removeFirst key k l) : x ∈ l :=
  (removeFirst_sublist key k l).subset h

theorem nodup_removeFirst {k : Str} {l : List α} (h : NodupKeys key l) :
    NodupKeys key (removeFirst key k l) :=
  ((removeFirst_sublist key k l).map key).nodup h

theorem find_removeFirst_self {k : Str} {l : List α} (h : NodupKeys key l) :
    find key k (removeFirst key k l) = none := by
  induction l with
  | nil => rfl
  | cons y r ih =>
    unfold NodupKeys at h ih
    simp only [List.map_cons, List.nodup_cons] at h
    unfold removeFirst
    by_cases hy : key y = k
    · simp only [hy, if_true]
      rw [find_eq_none_iff]
      intro x hx hxk
      apply h.1
      exact List.mem_map.mpr ⟨x, hx, by rw [hxk, hy]⟩
    · simp only [hy, if_false, find_cons]
      exact ih h.2

theorem find_removeFirst_other {k k' : Str} (hne : k' ≠ k) (l : List α) :
    find key k' (removeFirst key k l) = find key k' l := by
  induction l with
  | nil => rfl
  | cons y r ih =>
    unfold removeFirst
    by_cases hy : key y = k
    · have h2 : key y ≠ k' := by intro h; exact hne (by rw [← h, hy])
      simp only [hy, if_true, find_cons]
      rw [hy] at h2
      simp [h2]
    · simp only [hy, if_false, find_cons, ih]

theorem removeFirst_of_absent {k : Str} {l : List α} (h : ∀ x ∈ l, key x ≠ k) :
    removeFirst key k l = l := by
  induction l with
  | nil => rfl
  | cons y r ih =>
    unfold removeFirst
    have hy : key y ≠ k := h y (by simp)
    simp only [hy, if_false]
    rw [ih (fun x hx => h x (List.mem_cons_of_mem _ hx))]

theorem addOrReplace_of_absent {x : α} {l : List α} (h : ∀ y ∈ l, key y ≠ key x) :
    addOrReplace key x l = l ++ [x] := by
  induction l with
  | nil => rfl
  | cons y r ih =>
    unfold addOrReplace
    have hy : key y ≠ key x := h y (by simp)
    simp only [hy, if_false, List.cons_append]
    rw [ih (fun z hz => h z (List.mem_cons_of_mem _ hz))]

theorem filter_removeFirst (p : Str → Bool) {k : Str} (hp : p k = false) (l : List α) :
    (removeFirst key k l).filter (fun x => p (key x)) = l.filter (fun x => p (key x)) := by
  induction l with
  | nil => rfl
  | cons y r ih =>
    unfold removeFirst
    by_cases hy : key y = k
    · simp [hy, hp]
    · simp only [hy, if_false, List.filter_cons, ih]

theorem find_eq_some_iff {k : Str} {l : List α} (hn : NodupKeys key l) {x : α} :
    find key k l = some x ↔ x ∈ l ∧ key x = k := by
  refine ⟨find_some_mem key, fun ⟨hx, hk⟩ => ?_⟩
  cases h : find key k l with
  | none => exact absurd hk ((find_eq_none_iff key k l).mp h x hx)
  | some y =>
    obtain ⟨hy, hyk⟩ := find_some_mem key h
    rw [eq_of_key_eq key hn hy hx (hyk.trans hk.symm)]

theorem find_perm {l l' : List α} (hp : l.Perm l') (hn : NodupKeys key l) (k : Str) :
    find key k l = find key k l' :=
  Option.ext fun x => by
    rw [find_eq_some_iff key hn, find_eq_some_iff key ((hp.map key).nodup_iff.mp hn), hp.mem_iff]

end Keyed

section TwoPass
variable {α ε : Type} (key : α → Str) (rawKey : ε → Str) (conv : ε → α)

/-- The removal loop of `AdjustDevices` / `AdjustMounts` over any keyed list: `Devices.removals` and
    `Mounts.removals` are instances (`removals_eq`). -/
def gRemovals (l : List α) (L : List ε) : List α :=
  L.foldl (fun l e => if isMarked (rawKey e) then removeFirst key (stripMarker (rawKey e)) l else l) l

/-- The set loop of `AdjustDevices` / `AdjustMounts` when the keys are distinct (`RemoveX` followed by
    an append; with distinct keys `AddDevice` never finds the key it has just removed). -/
def gSets (l : List α) (L : List ε) : List α :=
  L.foldl (fun l e => if isMarked (rawKey e) then l else removeFirst key (rawKey e) l ++ [conv e]) l

def pick {ε β : Type} (o : Option ε) (g : ε → β) (d : Option β) : Option β :=
  match o with
  | some e => some (g e)
  | none => d

@[simp] theorem pick_some {ε β : Type} (e : ε) (g : ε → β) (d : Option β) : pick (some e) g d = some (g e) := rfl
@[simp] theorem pick_none {ε β : Type} (g : ε → β) (d : Option β) : pick (none : Option ε) g d = d := rfl

def lastMatch (q : ε → Bool) : List ε → Option ε
  | [] => none
  | e :: r => match lastMatch q r with
    | some x => some x
    | none => if q e then some e else none

theorem lastMatch_eq_find? (q : ε → Bool) (L : List ε) : lastMatch q L = L.reverse.find? q := by
  induction L with
  | nil => rfl
  | cons e r ih =>
    rw [lastMatch, ih, List.reverse_cons, List.find?_append]
    cases r.reverse.find? q <;> cases h : q e <;> simp [h]

theorem lastMatch_append (q : ε → Bool) (A B : List ε) :
    lastMatch q (A ++ B) = match lastMatch q B with | some x => some x | none => lastMatch q A := by
  simp only [lastMatch_eq_find?, List.reverse_append, List.find?_append]
  cases B.reverse.find? q <;> rfl

theorem lastMatch_none_iff (q : ε → Bool) (L : List ε) :
    lastMatch q L = none ↔ ∀ e ∈ L, q e = false := by
  simp [lastMatch_eq_find?]

theorem lastMatch_some {q : ε → Bool} {L : List ε} {e : ε} (h : lastMatch q L = some e) :
    e ∈ L ∧ q e = true := by
  rw [lastMatch_eq_find?] at h
  exact ⟨List.mem_reverse.mp (List.mem_of_find?_eq_some h), List.find?_some h⟩

theorem any_eq_lastMatch_isSome (q : ε → Bool) (L : List ε) : L.any q = (lastMatch q L).isSome := by
  rw [lastMatch_eq_find?, Bool.eq_iff_iff, List.any_eq_true, List.find?_isSome]
  simp only [List.mem_reverse]

theorem lastMatch_and_const (c : Bool) (q : ε → Bool) (L : List ε) :
    lastMatch (fun e => c && q e) L = if c then lastMatch q L else none := by
  cases c
  · exact (lastMatch_none_iff _ _).mpr fun _ _ => rfl
  · simp only [Bool.true_and, if_true]

theorem Env.lastMatch_filter {ε : Type} (q p : ε → Bool) (L : List ε) :
    lastMatch q (L.filter p) = lastMatch (fun e => p e && q e) L := by
  rw [lastMatch_eq_find?, lastMatch_eq_find?, ← List.filter_reverse, List.find?_filter]
  simp only [Bool.decide_and, Bool.decide_eq_true]

theorem lastMatch_split {q : ε → Bool} {pre post : List ε} {e : ε} (he : q e = true)
    (hpost : ∀ x ∈ post, q x = false) : lastMatch q (pre ++ e :: post) = some e := by
  rw [lastMatch_append, lastMatch, (lastMatch_none_iff q post).mpr hpost, he]
  rfl

/-- `e` is the last unmarked entry for its key in `L`. -/
def LastSet {ε : Type} (rawKey : ε → Str) (L : List ε) (e : ε) : Prop :=
  isMarked (rawKey e) = false ∧
  ∃ pre post, L = pre ++ e :: post ∧ ∀ x ∈ post, isMarked (rawKey x) = false → rawKey x ≠ rawKey e

theorem LastSet.lastMatch {ε : Type} {rawKey : ε → Str} {L : List ε} {e : ε} (h : LastSet rawKey L e) :
    lastMatch (fun x => !isMarked (rawKey x) && rawKey x == rawKey e) L = some e := by
  obtain ⟨hm, pre, post, hL, hpost⟩ := h
  rw [hL]
  apply lastMatch_split
  · simp [hm]
  · intro x hx
    cases hmx : isMarked (rawKey x)
    · have := hpost x hx hmx; simp [this]
    · simp

theorem split_of_nodup {κ : Type} (f : ε → κ) {L : List ε} (hn : (L.map f).Nodup) {e : ε} (he : e ∈ L) :
    ∃ pre post, L = pre ++ e :: post ∧ ∀ x ∈ post, f x ≠ f e := by
  obtain ⟨pre, post, hL⟩ := List.append_of_mem he
  refine ⟨pre, post, hL, fun x hx hxe => ?_⟩
  rw [hL, List.map_append, List.map_cons, List.nodup_append] at hn
  exact (List.nodup_cons.mp hn.2.1).1 (hxe ▸ List.mem_map_of_mem hx)

theorem LastSet.of_nodup {L : List ε} (hn : (L.map rawKey).Nodup) {e : ε} (he : e ∈ L)
    (hm : isMarked (rawKey e) = false) : LastSet rawKey L e :=
  let ⟨pre, post, hL, hpost⟩ := split_of_nodup rawKey hn he
  ⟨hm, pre, post, hL, fun x hx _ => hpost x hx⟩

theorem lastMatch_key_of_nodup (f : ε → Str) {L : List ε} (hn : (L.map f).Nodup) {e : ε} (he : e ∈ L) :
    lastMatch (fun x => f x == f e) L = some e := by
  obtain ⟨pre, post, hL, hpost⟩ := split_of_nodup f hn he
  rw [hL]
  exact lastMatch_split (by simp) fun x hx => by simpa using hpost x hx

/-- What the entry list `L` leaves under key `k` where `d` was before: the (converted) LAST
    unmarked entry for `k` if there is one, also when `-k` occurs anywhere in `L` (a set wins);
    nothing if `k` is only marked for removal; `d` if `L` does not name `k`.  The closed form
    shared by annotations, environment, devices and mounts. -/
def requested {β : Type} (g : ε → β) (L : List ε) (k : Str) (d : Option β) : Option β :=
  pick (lastMatch (fun e => !isMarked (rawKey e) && rawKey e == k) L) g
    (if L.any (fun e => isMarked (rawKey e) && stripMarker (rawKey e) == k) then none else d)

section Requested
variable {β : Type} (g : ε → β) {L : List ε} (d : Option β)

theorem requested_set {e : ε} (h : LastSet rawKey L e) : requested rawKey g L (rawKey e) d = some (g e) := by
  rw [requested, h.lastMatch, pick_some]

theorem requested_of_no_set {k : Str} (hno : ∀ x ∈ L, isMarked (rawKey x) = false → rawKey x ≠ k) :
    requested rawKey g L k d =
      if L.any (fun e => isMarked (rawKey e) && stripMarker (rawKey e) == k) then none else d := by
  have : lastMatch (fun e => !isMarked (rawKey e) && rawKey e == k) L = none := by
    rw [lastMatch_none_iff]; intro x hx
    cases hm : isMarked (rawKey x)
    · simpa using hno x hx hm
    · rfl
  rw [requested, this, pick_none]

theorem requested_removed {e : ε} {k : Str} (he : e ∈ L) (hek : rawKey e = markForRemoval k)
    (hno : ∀ x ∈ L, isMarked (rawKey x) = false → rawKey x ≠ k) : requested rawKey g L k d = none := by
  rw [requested_of_no_set rawKey g d hno, if_pos]
  exact List.any_eq_true.mpr ⟨e, he, by simp [hek]⟩

theorem requested_unnamed {k : Str} (hno : ∀ x ∈ L, stripMarker (rawKey x) ≠ k) :
    requested rawKey g L k d = d := by
  rw [requested_of_no_set rawKey g d fun x hx hm => strip_of_not_marked hm ▸ hno x hx, if_neg]
  intro hany
  obtain ⟨x, hx, hq⟩ := List.any_eq_true.mp hany
  simp only [Bool.and_eq_true, beq_iff_eq] at hq
  exact hno x hx hq.2

end Requested

theorem named_rejected (L : List ε) :
    ∀ e ∈ L, (!(L.map fun e => stripMarker (rawKey e)).contains (stripMarker (rawKey e))) = false := by
  intro e he
  simpa using ⟨e, he, rfl⟩

theorem gRemovals_sublist (l : List α) (L : List ε) : (gRemovals key rawKey l L).Sublist l :=
  List.foldlRecOn (motive := fun l' : List α => l'.Sublist l) L _ (List.Sublist.refl l) fun l' h e _ => by
    split
    · exact (removeFirst_sublist key _ l').trans h
    · exact h

theorem mem_gRemovals {l : List α} (L : List ε) {x : α} (h : x ∈ gRemovals key rawKey l L) : x ∈ l :=
  (gRemovals_sublist key rawKey l L).subset h

theorem nodup_gRemovals {l : List α} (L : List ε) (h : NodupKeys key l) :
    NodupKeys key (gRemovals key rawKey l L) :=
  ((gRemovals_sublist key rawKey l L).map key).nodup h

theorem find_gRemovals {l : List α} (L : List ε) (h : NodupKeys key l) (k : Str) :
    find key k (gRemovals key rawKey l L) =
      if L.any (fun e => isMarked (rawKey e) && stripMarker (rawKey e) == k) then none
      else find key k l := by
  induction L generalizing l with
  | nil => rfl
  | cons e r ih =>
    rw [gRemovals, List.foldl_cons, List.any_cons]
    cases hm : isMarked (rawKey e)
    · exact ih h
    · refine (ih (nodup_removeFirst key h)).trans ?_
      by_cases hk : stripMarker (rawKey e) = k
      · subst hk; simp [find_removeFirst_self key h]
      · simp [hk, find_removeFirst_other key (Ne.symm hk)]

variable (hconv : ∀ e, isMarked (rawKey e) = false → key (conv e) = rawKey e)

theorem mem_gSets {l : List α} (L : List ε) {x : α} (h : x ∈ gSets key rawKey conv l L) :
    x ∈ l ∨ ∃ e ∈ L, isMarked (rawKey e) = false ∧ x = conv e := by
  revert x
  refine List.foldlRecOn (motive := fun l' : List α => ∀ {x}, x ∈ l' → x ∈ l ∨ ∃ e ∈ L, isMarked (rawKey e) = false ∧ x = conv e)
    L _ Or.inl fun l' ih e he x hx => ?_
  split at hx
  · exact ih hx
  · rename_i hm
    rcases List.mem_append.mp hx with hx | hx
    · exact ih (mem_removeFirst key hx)
    · exact Or.inr ⟨e, he, by simpa using hm, List.mem_singleton.mp hx⟩

include hconv in
theorem nodup_gSets_step {l : List α} {e : ε} (hm : isMarked (rawKey e) = false) (h : NodupKeys key l) :
    NodupKeys key (removeFirst key (rawKey e) l ++ [conv e]) := by
  have h1 := nodup_removeFirst key (k := rawKey e) h
  have h2 := (find_eq_none_iff key _ _).mp (find_removeFirst_self key (k := rawKey e) h)
  unfold NodupKeys at h1 ⊢
  rw [List.map_append, List.nodup_append]
  refine ⟨h1, by simp, ?_⟩
  intro a ha b hb
  rcases List.mem_map.mp ha with ⟨z, hz, hzk⟩
  rw [List.mem_singleton.mp hb, hconv e hm, ← hzk]
  exact h2 z hz

include hconv in
theorem nodup_gSets {l : List α} (L : List ε) (h : NodupKeys key l) :
    NodupKeys key (gSets key rawKey conv l L) :=
  List.foldlRecOn (motive := NodupKeys key) L _ h fun l' h' e _ => by
    split
    · exact h'
    · rename_i hm
      exact nodup_gSets_step key rawKey conv hconv (by simpa using hm) h'

include hconv in
theorem nodup_twoPass {l : List α} (L : List ε) (h : NodupKeys key l) :
    NodupKeys key (gSets key rawKey conv (gRemovals key rawKey l L) L) :=
  nodup_gSets key rawKey conv hconv L (nodup_gRemovals key rawKey L h)

include hconv in
theorem find_gSets {l : List α} (L : List ε) (h : NodupKeys key l) (k : Str) :
    find key k (gSets key rawKey conv l L) =
      pick (lastMatch (fun e => !isMarked (rawKey e) && rawKey e == k) L) conv (find key k l) := by
  induction L generalizing l with
  | nil => rfl
  | cons e r ih =>
    rw [gSets, List.foldl_cons, lastMatch]
    cases hm : isMarked (rawKey e)
    · refine (ih (nodup_gSets_step key rawKey conv hconv hm h)).trans ?_
      cases lastMatch (fun e => !isMarked (rawKey e) && rawKey e == k) r with
      | some x => rfl
      | none =>
        by_cases hk : rawKey e = k
        · subst hk; simp [find_append, find_cons, hconv e hm, find_removeFirst_self key h]
        · simp [find_append, find_cons, hconv e hm, hk, find_removeFirst_other key (Ne.symm hk)]
    · refine (ih h).trans ?_
      cases lastMatch (fun e => !isMarked (rawKey e) && rawKey e == k) r <;> rfl

include hconv in
theorem find_twoPass {l : List α} (L : List ε) (h : NodupKeys key l) (k : Str) :
    find key k (gSets key rawKey conv (gRemovals key rawKey l L) L) =
      requested rawKey conv L k (find key k l) := by
  rw [find_gSets key rawKey conv hconv L (nodup_gRemovals key rawKey L h), find_gRemovals key rawKey L h]
  rfl

include hconv in
theorem filter_twoPass (p : Str → Bool) (L : List ε)
    (hp : ∀ e ∈ L, p (stripMarker (rawKey e)) = false) (l : List α) :
    (gSets key rawKey conv (gRemovals key rawKey l L) L).filter (fun x => p (key x)) =
      l.filter (fun x => p (key x)) := by
  have h1 : (gRemovals key rawKey l L).filter (fun x => p (key x)) = l.filter (fun x => p (key x)) :=
    List.foldlRecOn (motive := fun l' : List α => l'.filter (fun x => p (key x)) = l.filter (fun x => p (key x)))
      L _ rfl fun l' ih e he => by
        split
        · rw [filter_removeFirst key p (hp e he), ih]
        · exact ih
  refine Eq.trans ?_ h1
  refine List.foldlRecOn (motive := fun l' : List α => l'.filter (fun x => p (key x)) = _) L _ rfl fun l' ih e he => ?_
  split
  · exact ih
  · rename_i hm
    have hm : isMarked (rawKey e) = false := by simpa using hm
    have hpe : p (rawKey e) = false := strip_of_not_marked hm ▸ hp e he
    rw [List.filter_append, filter_removeFirst key p hpe, ih]
    simp [hconv e hm, hpe]

include hconv in
theorem filter_twoPass_unnamed (l : List α) (L : List ε) :
    (gSets key rawKey conv (gRemovals key rawKey l L) L).filter
        (fun x => !(L.map fun e => stripMarker (rawKey e)).contains (key x)) =
      l.filter (fun x => !(L.map fun e => stripMarker (rawKey e)).contains (key x)) :=
  filter_twoPass key rawKey conv hconv (fun n => !(L.map fun e => stripMarker (rawKey e)).contains n) L
    (named_rejected rawKey L) l

end TwoPass
end Nri.Generate
