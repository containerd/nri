/-
Glue between `adjust_ok` and the per-family lemmas: the device and mount lists of the result of
`adjust` as the generic two-pass shape, and what each keyed family of the result holds under
every key (`requested`).
-/
import NriModel.Lemmas.GenerateDevices
import NriModel.Lemmas.GenerateMounts
import NriModel.Lemmas.GenerateEnv
import NriModel.Lemmas.GenerateFrame
import NriModel.Lemmas.GenerateRepair
import NriModel.Lemmas.GenerateCheck

namespace Nri.Generate
open Nri.Api
open Nri.Oci (Spec)

variable {ext : Externals} {s s' : Spec} {a : Adjustment}

theorem devices_eq (hext : ext.CDIFramed) (h : adjust ext s a = .ok s')
    (hn : NodupKeys Oci.Device.path s.devices) :
    s'.devices = gSets Oci.Device.path LinuxDevice.path LinuxDevice.toOCI
      (gRemovals Oci.Device.path LinuxDevice.path s.devices a.linuxDevices) a.linuxDevices := by
  have := congrArg Prod.fst (adjust_ok hext h).devices
  simp only at this
  rw [this, Devices.apply_fst _ _ hn]

theorem mounts_eq (hext : ext.CDIFramed) (h : adjust ext s a = .ok s') (hne : a.mounts ≠ []) :
    s'.mounts = Mounts.sortMounts
      (gSets Oci.Mount.destination Api.Mount.destination Api.Mount.toOCI
        (gRemovals Oci.Mount.destination Api.Mount.destination s.mounts a.mounts) a.mounts) := by
  have hm := (adjust_ok hext h).mounts
  unfold Mounts.apply at hm
  have : a.mounts.isEmpty = false := by cases hl : a.mounts <;> simp_all
  simp only [this, Bool.false_eq_true, if_false] at hm
  split at hm
  · rename_i st hst
    have e := Mounts.sets_mounts a.mounts hst
    simp only [Mounts.removals_eq] at e
    have := congrArg Prod.fst (Except.ok.inj hm)
    simp only at this
    rw [← this, e]
  · cases hm

theorem annotations_lookup (hext : ext.CDIFramed) (h : adjust ext s a = .ok s') (k : Str) :
    AList.lookup s'.annotations k =
      requested Prod.fst Prod.snd a.annotations k (AList.lookup s.annotations k) := by
  rw [(adjust_ok hext h).annotations]
  exact Annotations.lookup_apply s.annotations a.annotations k

theorem env_lookup (hext : ext.CDIFramed) (h : adjust ext s a = .ok s') (hwf : Env.WF s.env)
    (hkeys : ∀ x ∈ a.env, '=' ∉ stripMarker x.key) {k : Str} (hk : k ≠ []) :
    Env.lookup s'.env k = requested KeyValue.key KeyValue.value a.env k (Env.lookup s.env k) := by
  rw [(adjust_ok hext h).env]
  exact Env.lookup_apply s.env a.env hwf hkeys k hk

theorem devices_find (hext : ext.CDIFramed) (h : adjust ext s a = .ok s')
    (hn : NodupKeys Oci.Device.path s.devices) (k : Str) :
    find Oci.Device.path k s'.devices =
      requested LinuxDevice.path LinuxDevice.toOCI a.linuxDevices k (find Oci.Device.path k s.devices) := by
  rw [devices_eq hext h hn]
  exact find_twoPass Oci.Device.path LinuxDevice.path LinuxDevice.toOCI (fun _ _ => rfl) _ hn k

theorem mounts_nil (hext : ext.CDIFramed) (h : adjust ext s a = .ok s') (he : a.mounts = []) :
    s'.mounts = s.mounts ∧ s'.rootfsPropagation = s.rootfsPropagation := by
  have hm := (adjust_ok hext h).mounts
  rw [he] at hm
  exact ⟨(congrArg Prod.fst (Except.ok.inj hm)).symm, (congrArg Prod.snd (Except.ok.inj hm)).symm⟩

theorem mounts_nodup {l : List Oci.Mount} (hn : NodupKeys Oci.Mount.destination l) (L : List Api.Mount) :
    NodupKeys Oci.Mount.destination
      (gSets Oci.Mount.destination Api.Mount.destination Api.Mount.toOCI
        (gRemovals Oci.Mount.destination Api.Mount.destination l L) L) :=
  nodup_twoPass Oci.Mount.destination Api.Mount.destination Api.Mount.toOCI (fun _ _ => rfl) L hn

theorem mounts_find (hext : ext.CDIFramed) (h : adjust ext s a = .ok s')
    (hn : NodupKeys Oci.Mount.destination s.mounts) (k : Str) :
    find Oci.Mount.destination k s'.mounts =
      requested Api.Mount.destination Api.Mount.toOCI a.mounts k (find Oci.Mount.destination k s.mounts) := by
  by_cases hne : a.mounts = []
  · rw [(mounts_nil hext h hne).1, hne]; rfl
  · rw [mounts_eq hext h hne, Mounts.find_sortMounts (mounts_nodup hn _)]
    exact find_twoPass Oci.Mount.destination Api.Mount.destination Api.Mount.toOCI (fun _ _ => rfl) _ hn k

end Nri.Generate
