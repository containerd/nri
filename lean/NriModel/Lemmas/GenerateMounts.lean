/-
Mounts: the set loop of `AdjustMounts` is the generic two-pass shape on the mount list;
`orderedMounts.Less` is asymmetric and transitive; `sortMounts` returns a sorted permutation;
under cleaned paths a parent directory is `Less` than any of its descendants.
-/
import NriModel.Lemmas.GenerateKeyed

namespace Nri.Generate
open Nri.Api

namespace Mounts

theorem toOCI_destination (m : Api.Mount) : m.toOCI.destination = m.destination := rfl

theorem removals_eq (ms : List Oci.Mount) (L : List Api.Mount) :
    removals ms L = gRemovals Oci.Mount.destination Api.Mount.destination ms L := rfl

/-- What a successful `setStep` leaves: the mount replaced at the end, the propagation query
    carried on, and the rootfs propagation raised by what this entry (effectively) asks for. -/
theorem setStep_ok {hp : Str → Str} {st st' : State} {m : Api.Mount} (h : setStep hp st m = .ok st') :
    st'.mounts = removeFirst Oci.Mount.destination m.destination st.mounts ++ [m.toOCI] ∧
    st'.prop = m.propagationQuery st.prop ∧
    st'.rootfs =
      if m.propagationQuery st.prop = str "rshared" then str "rshared"
      else if m.propagationQuery st.prop = str "rslave" then
        (if st.rootfs ≠ str "rshared" ∧ st.rootfs ≠ str "rslave" then str "rslave" else st.rootfs)
      else st.rootfs := by
  unfold setStep at h
  simp only at h
  split at h
  · rename_i h1
    split at h
    · cases h; exact ⟨rfl, rfl, (if_pos h1).symm⟩
    · cases h
  · rename_i h1
    split at h
    · rename_i h2
      split at h
      · cases h
        refine ⟨rfl, rfl, ?_⟩
        rw [if_neg h1, if_pos h2]
        by_cases c1 : st.rootfs = str "rshared" <;> by_cases c2 : st.rootfs = str "rslave" <;> simp [c1, c2]
      · cases h
    · rename_i h2
      cases h
      exact ⟨rfl, rfl, by rw [if_neg h1, if_neg h2]⟩

theorem sets_mounts {hp : Str → Str} (L : List Api.Mount) {st st' : State}
    (h : sets hp st L = .ok st') :
    st'.mounts = gSets Oci.Mount.destination Api.Mount.destination Api.Mount.toOCI st.mounts L := by
  induction L generalizing st with
  | nil => simp [sets] at h; cases h; rfl
  | cons m r ih =>
    simp only [sets] at h
    simp only [gSets, List.foldl_cons]
    by_cases hm : isMarked m.destination = true
    · simp only [hm, if_true] at h ⊢
      have := ih h
      simpa [gSets] using this
    · have hm' : isMarked m.destination = false := by simpa using hm
      simp only [hm', Bool.false_eq_true, if_false] at h ⊢
      cases hs : setStep hp st m with
      | error e => rw [hs] at h; cases h
      | ok st1 =>
        rw [hs] at h
        have := ih h
        simp only [gSets] at this
        rw [this, (setStep_ok hs).1]

/-- `strLt` is the order of lists of characters -/
theorem strLt_iff_lt {a b : Str} : strLt a b = true ↔ a < b := by
  induction a generalizing b with
  | nil => cases b <;> simp [strLt]
  | cons x xs ih =>
    cases b with
    | nil => simp [strLt]
    | cons y ys =>
      have hlt : x < y ↔ x.toNat < y.toNat := by
        rw [Char.lt_def, UInt32.lt_iff_toNat_lt, Char.toNat_val, Char.toNat_val]
      simp only [strLt, List.cons_lt_cons_iff, ← ih, hlt, ← Char.toNat_inj]
      split
      · simp [*]
      · split <;> simp [*]

theorem strLt_irrefl (a : Str) : strLt a a = false := by
  simpa [← strLt_iff_lt] using List.lt_irrefl a

theorem strLt_asymm {a b : Str} (h : strLt a b = true) : strLt b a = false := by
  simpa [← strLt_iff_lt] using List.lt_asymm (strLt_iff_lt.mp h)

theorem strLt_trans {a b c : Str} (h1 : strLt a b = true) (h2 : strLt b c = true) :
    strLt a c = true :=
  strLt_iff_lt.mpr (List.lt_trans (strLt_iff_lt.mp h1) (strLt_iff_lt.mp h2))

theorem strLt_append (a : Str) {r : Str} (hr : r ≠ []) : strLt a (a ++ r) = true := by
  induction a with
  | nil => cases r with
    | nil => exact absurd rfl hr
    | cons c s => rfl
  | cons c s ih => simp [strLt, ih]

theorem mountLt_asymm {a b : Oci.Mount} (h : mountLt a b = true) : mountLt b a = false := by
  unfold mountLt at h ⊢
  simp only [Bool.or_eq_true, decide_eq_true_eq, Bool.and_eq_true] at h
  rcases h with h | ⟨h1, h2⟩
  · have n1 : ¬ parts b.destination < parts a.destination := by omega
    have n2 : ¬ parts b.destination = parts a.destination := by omega
    simp [n1, n2]
  · have n1 : ¬ parts b.destination < parts a.destination := by omega
    simp [n1, strLt_asymm h2]

theorem mountLt_trans {a b c : Oci.Mount} (h1 : mountLt a b = true) (h2 : mountLt b c = true) :
    mountLt a c = true := by
  unfold mountLt at h1 h2 ⊢
  simp only [Bool.or_eq_true, decide_eq_true_eq, Bool.and_eq_true] at h1 h2 ⊢
  rcases h1 with h1 | ⟨e1, s1⟩
  · rcases h2 with h2 | ⟨e2, _⟩
    · left; omega
    · left; omega
  · rcases h2 with h2 | ⟨e2, s2⟩
    · left; omega
    · right; exact ⟨by omega, strLt_trans s1 s2⟩

/-- sortedness: no element is `Less` than an earlier one -/
def Sorted (l : List Oci.Mount) : Prop := l.Pairwise (fun a b => mountLt b a = false)

theorem insertSorted_perm (m : Oci.Mount) (l : List Oci.Mount) : (insertSorted m l).Perm (m :: l) := by
  induction l with
  | nil => exact List.Perm.refl _
  | cons y r ih =>
    unfold insertSorted
    cases h : mountLt m y with
    | true => simp
    | false =>
      simp only [Bool.false_eq_true, if_false]
      exact (List.Perm.cons y ih).trans (List.Perm.swap m y r)

theorem mem_insertSorted {m x : Oci.Mount} {l : List Oci.Mount} :
    x ∈ insertSorted m l ↔ x = m ∨ x ∈ l :=
  (insertSorted_perm m l).mem_iff.trans List.mem_cons

theorem insertSorted_sorted (m : Oci.Mount) {l : List Oci.Mount} (h : Sorted l) :
    Sorted (insertSorted m l) := by
  induction l with
  | nil => simp [insertSorted, Sorted]
  | cons y r ih =>
    unfold Sorted at h ih ⊢
    rw [List.pairwise_cons] at h
    unfold insertSorted
    cases hl : mountLt m y with
    | true =>
      simp only [if_true, List.pairwise_cons]
      refine ⟨?_, h.1, h.2⟩
      intro x hx
      rcases List.mem_cons.mp hx with hx | hx
      · rw [hx]; exact mountLt_asymm hl
      · -- x ∈ r, y ≤ x, m < y  ⇒  ¬ x < m
        cases hxm : mountLt x m with
        | false => rfl
        | true =>
          have := mountLt_trans hxm hl
          rw [h.1 x hx] at this; cases this
    | false =>
      simp only [Bool.false_eq_true, if_false, List.pairwise_cons]
      refine ⟨?_, ih h.2⟩
      intro x hx
      rcases mem_insertSorted.mp hx with hx | hx
      · rw [hx]; exact hl
      · exact h.1 x hx

theorem sortAux_perm (acc l : List Oci.Mount) :
    (l.foldl (fun acc m => insertSorted m acc) acc).Perm (acc ++ l) := by
  induction l generalizing acc with
  | nil => simp
  | cons m r ih =>
    simp only [List.foldl_cons]
    refine (ih (insertSorted m acc)).trans ?_
    refine ((insertSorted_perm m acc).append_right r).trans ?_
    simpa using (List.perm_middle (a := m) (l₁ := acc) (l₂ := r)).symm

theorem sortMounts_perm (l : List Oci.Mount) : (sortMounts l).Perm l := by
  simpa [sortMounts] using sortAux_perm [] l

theorem sortMounts_sorted (l : List Oci.Mount) : Sorted (sortMounts l) :=
  List.foldlRecOn (motive := Sorted) l _ List.Pairwise.nil fun _ h m _ => insertSorted_sorted m h

theorem nodup_sortMounts {l : List Oci.Mount} (h : NodupKeys Oci.Mount.destination l) :
    NodupKeys Oci.Mount.destination (sortMounts l) := by
  unfold NodupKeys at h ⊢
  exact ((sortMounts_perm l).map _).nodup_iff.mpr h

theorem find_sortMounts {l : List Oci.Mount} (h : NodupKeys Oci.Mount.destination l) (k : Str) :
    find Oci.Mount.destination k (sortMounts l) = find Oci.Mount.destination k l :=
  find_perm Oci.Mount.destination (sortMounts_perm l) (nodup_sortMounts h) k

/-- `p` is a proper ancestor directory of `c`, as strings: `c = p/rest`, or `p` is the root. -/
def IsAncestor (p c : Str) : Prop :=
  ∃ rest, rest ≠ [] ∧ (c = p ++ '/' :: rest ∨ (p = ['/'] ∧ c = '/' :: rest))

/-- Only the PARENT has to be a cleaned path: a cleaned directory `a` is `Less` than every mount
    whose cleaned destination lies below it (if `a` is the root, the other destination must be
    written with a leading `/`, which every absolute path is). -/
theorem mountLt_of_clean_parent {a b : Oci.Mount}
    (ha : cleanPath a.destination = a.destination)
    (habs : a.destination = ['/'] → ∃ t, b.destination = '/' :: t)
    (h : IsAncestor a.destination (cleanPath b.destination)) : mountLt a b = true := by
  obtain ⟨rest, hr, h⟩ := h
  unfold mountLt parts
  rw [ha]
  simp only [Bool.or_eq_true, decide_eq_true_eq, Bool.and_eq_true]
  rcases h with h | ⟨h1, h2⟩
  · left
    rw [h, List.count_append, List.count_cons]
    simp only [beq_self_eq_true, if_true]
    omega
  · rw [h2]
    by_cases hc : List.count '/' rest = 0
    · right
      refine ⟨by rw [h1]; simp [hc], ?_⟩
      obtain ⟨t, ht⟩ := habs h1
      rw [h1, ht]
      have htne : t ≠ [] := by
        intro ht0
        rw [ht, ht0] at h2
        have : cleanPath ['/'] = ['/'] := by decide
        rw [this] at h2
        simp only [List.cons.injEq, true_and] at h2
        exact hr h2.symm
      have := strLt_append ['/'] htne
      simpa using this
    · left
      have e1 : List.count '/' ('/' :: rest) = List.count '/' rest + 1 := by simp
      have e2 : List.count '/' a.destination = 1 := by rw [h1]; decide
      rw [e1, e2]; omega

theorem mountLt_of_ancestor {a b : Oci.Mount}
    (ha : cleanPath a.destination = a.destination) (hb : cleanPath b.destination = b.destination)
    (h : IsAncestor a.destination b.destination) : mountLt a b = true := by
  refine mountLt_of_clean_parent ha (fun hroot => ?_) (hb.symm ▸ h)
  obtain ⟨rest, _, hr | ⟨_, hr⟩⟩ := h
  · rw [hr, hroot]; exact ⟨_, rfl⟩
  · exact ⟨rest, hr⟩

theorem sorted_index_lt {l : List Oci.Mount} (hs : Sorted l) {i j : Nat} {a b : Oci.Mount}
    (hi : l[i]? = some a) (hj : l[j]? = some b) (hlt : mountLt a b = true) : i < j := by
  unfold Sorted at hs
  rw [List.pairwise_iff_getElem] at hs
  obtain ⟨hi', hia⟩ := List.getElem?_eq_some_iff.mp hi
  obtain ⟨hj', hjb⟩ := List.getElem?_eq_some_iff.mp hj
  rcases Nat.lt_trichotomy i j with h | h | h
  · exact h
  · subst h
    rw [hia] at hjb; subst hjb
    have := mountLt_asymm hlt
    rw [hlt] at this; cases this
  · have := hs j i hj' hi' h
    rw [hia, hjb, hlt] at this; cases this

end Mounts
end Nri.Generate
