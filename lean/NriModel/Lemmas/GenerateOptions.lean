/-
Lemmas about `Generate.adjustWith` (`Generator.Adjust` with the `WithAnnotationFilter` /
`WithResourceChecker` callbacks): how it factors through `Generate.adjust`, when the checker
runs and on what, and what a checker that only edits `Linux.Resources` can and cannot change.
-/
import NriModel.GenerateOptions
import NriModel.Lemmas.GenerateFrame

namespace Nri.Generate
open Nri.Api
open Nri.Oci (Spec)

@[simp] theorem filterStage_none (o : Options) (h : o.filterAnnotations = none) (ann : AList Str Str) :
    filterStage o ann = .ok ann := by
  unfold filterStage; rw [h]

@[simp] theorem checkStage_nochecker (o : Options) (h : o.checkResources = none) (a : Adjustment) (s : Spec) :
    checkStage o a s = .ok s := by
  unfold checkStage; rw [h]; cases a.resources <;> rfl

theorem checkStage_noresources (o : Options) (a : Adjustment) (h : a.resources = none) (s : Spec) :
    checkStage o a s = .ok s := by
  unfold checkStage; rw [h]

theorem liftGen_bind {α β : Type} (x : Except GenError α) (f : α → Except GenError β) :
    liftGen (x >>= f) = (liftGen x >>= fun v => liftGen (f v)) := by
  cases x <;> rfl

theorem adjustWith_plain (o : Options) (hf : o.filterAnnotations = none) (hc : o.checkResources = none)
    (ext : Externals) (s : Spec) (a : Adjustment) :
    adjustWith o ext s a = liftGen (adjust ext s a) := by
  unfold adjustWith
  rw [filterStage_none o hf, adjust_eq_pre_post, liftGen_bind]
  simp only [bind, Except.bind]
  cases hpre : adjustPre ext s a with
  | error e => simp [liftGen]
  | ok s1 => simp only [liftGen, checkStage_nochecker o hc]

theorem adjustWith_default (ext : Externals) (s : Spec) (a : Adjustment) :
    adjustWith {} ext s a = liftGen (adjust ext s a) :=
  adjustWith_plain {} rfl rfl ext s a

theorem adjustWith_filter_ok (o : Options) (ext : Externals) (s : Spec) (a : Adjustment)
    (f : AList Str Str → Except Unit (AList Str Str)) (hf : o.filterAnnotations = some f)
    (ann : AList Str Str) (hk : f a.annotations = .ok ann) :
    adjustWith o ext s a =
      adjustWith { o with filterAnnotations := none } ext s { a with annotations := ann } := by
  unfold adjustWith filterStage
  rw [hf]; simp only [hk]
  rfl

theorem adjustWith_check_skipped (o : Options) (ext : Externals) (s : Spec) (a : Adjustment)
    (hr : a.resources = none) :
    adjustWith o ext s a = adjustWith { o with checkResources := none } ext s a := by
  unfold adjustWith
  cases hfs : filterStage o a.annotations with
  | error e =>
    have : filterStage { o with checkResources := none } a.annotations = .error e := hfs
    simp only [this, bind, Except.bind]
  | ok ann =>
    have h2 : filterStage { o with checkResources := none } a.annotations = .ok ann := hfs
    have hr' : ({ a with annotations := ann } : Adjustment).resources = none := hr
    simp only [h2, bind, Except.bind]
    cases liftGen (adjustPre ext s { a with annotations := ann }) with
    | error e => rfl
    | ok s1 =>
      simp only [checkStage_noresources _ _ hr']

theorem adjustWith_check (o : Options) (ext : Externals) (s : Spec) (a : Adjustment)
    (hf : o.filterAnnotations = none) (chk : Spec → Except Unit Spec) (hc : o.checkResources = some chk)
    (r : LinuxResources) (hr : a.resources = some r) :
    adjustWith o ext s a =
      (match adjustPre ext s a with
       | .error e => .error (.gen e)
       | .ok s1 =>
         match chk s1 with
         | .error _ => .error .resourceCheck
         | .ok s2 => liftGen (adjustPost ext s2 a)) := by
  unfold adjustWith
  rw [filterStage_none o hf]
  simp only [bind, Except.bind]
  cases adjustPre ext s a with
  | error e => rfl
  | ok s1 =>
    simp only [liftGen, checkStage, hr, hc]
    cases chk s1 <;> rfl

theorem applyBlockIO_error_indep (f : Option (Str → Except Unit Nat)) (o1 o2 : Option Nat) (c : Option Str) :
    (∀ e, Resources.applyBlockIO f o1 c = .error e → Resources.applyBlockIO f o2 c = .error e) ∧
    (∀ b, Resources.applyBlockIO f o1 c = .ok b → ∃ b', Resources.applyBlockIO f o2 c = .ok b') := by
  unfold Resources.applyBlockIO
  cases c with
  | none => simp
  | some c =>
    cases f with
    | none => simp
    | some f =>
      by_cases hc : c = []
      · simp [hc]
      · simp only [hc, if_false]
        cases f c <;> simp

/-- The second half of `Adjust` does not look at, and (apart from the block-I/O class) does not
    touch, the resources section: on two specs that agree outside it, it fails alike or yields
    results that agree outside it. -/
theorem adjustPost_blank (ext : Externals) (a : Adjustment) {s t : Spec}
    (h : blankResources s = blankResources t) :
    (∀ e, adjustPost ext s a = .error e → adjustPost ext t a = .error e) ∧
    (∀ s', adjustPost ext s a = .ok s' → ∃ t', adjustPost ext t a = .ok t' ∧ blankResources s' = blankResources t') := by
  -- what the second half reads besides the block-I/O parameters is not blanked
  have hrdt : s.rdt = t.rdt := (congrArg Spec.rdt h :)
  have hmo : s.mounts = t.mounts := (congrArg Spec.mounts h :)
  have hrp : s.rootfsPropagation = t.rootfsPropagation := (congrArg Spec.rootfsPropagation h :)
  rw [adjustPost_eq, adjustPost_eq, ← hrdt, ← hmo, ← hrp]
  obtain ⟨hbe, hbo⟩ := applyBlockIO_error_indep ext.resolveBlockIO s.blockio t.blockio a.blockioClass
  cases hb : Resources.applyBlockIO ext.resolveBlockIO s.blockio a.blockioClass with
  | error e => rw [hbe e hb]; exact ⟨fun _ he => he, fun _ hs => by cases hs⟩
  | ok b =>
    obtain ⟨b', hb'⟩ := hbo b hb
    rw [hb']
    simp only
    cases Resources.applyRdt ext.resolveRdt s.rdt a.rdtClass with
    | error e => exact ⟨fun _ he => he, fun _ hs => by cases hs⟩
    | ok r =>
      simp only
      cases Mounts.apply ext.hostPropagation s.mounts s.rootfsPropagation a.mounts with
      | error e => exact ⟨fun _ he => he, fun _ hs => by cases hs⟩
      | ok mp =>
        refine ⟨fun _ he => (by cases he), fun s' hs => ?_⟩
        cases hs
        refine ⟨_, rfl, ?_⟩
        -- blanking commutes with the updates of the fields it does not blank, and forgets `blockio`
        let upd : Spec → Spec := fun x =>
          { x with rdt := r, mounts := mp.1, rootfsPropagation := mp.2,
                   rlimits := x.rlimits ++ a.rlimits.map POSIXRlimit.toOCI }
        show upd (blankResources s) = upd (blankResources t)
        rw [h]

/-- The second half of `Adjust` keeps whatever the checker left in the resources section, except
    the block-I/O parameters when the adjustment names a block-I/O class. -/
theorem adjustPost_resources (ext : Externals) (a : Adjustment) {s s' : Spec}
    (h : adjustPost ext s a = .ok s') :
    s'.cpu = s.cpu ∧ s'.memory = s.memory ∧ s'.hugepages = s.hugepages ∧ s'.unified = s.unified ∧
    s'.pids = s.pids ∧ s'.devRules = s.devRules ∧
    Resources.applyBlockIO ext.resolveBlockIO s.blockio a.blockioClass = .ok s'.blockio := by
  rw [adjustPost_eq] at h
  split at h
  · cases h
  rename_i b hb
  split at h
  · cases h
  split at h
  · cases h
  cases h
  exact ⟨rfl, rfl, rfl, rfl, rfl, rfl, hb⟩

end Nri.Generate
