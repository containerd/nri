/-
The repair /repo 6eaf34c, docs/fixes/C13-1.patch ("all removals before all sets" in `AdjustEnv`,
`AdjustDevices`, `AdjustMounts`) is the code before the repair run on the stably reordered
entry list `removalsFirst L`.  Hence it changes nothing for adjustments that already list
their removals first — in particular for everything the collector in `result.go` produces
from well-formed plugin responses (removal marker immediately before the set).
-/
import NriModel.Generate

namespace Nri.Generate
open Nri.Api

theorem removalsFirst_isEmpty {ε : Type} (rawKey : ε → Str) (L : List ε) :
    (removalsFirst rawKey L).isEmpty = L.isEmpty := by
  cases L with
  | nil => rfl
  | cons e r =>
    unfold removalsFirst
    cases hm : isMarked (rawKey e) <;> simp [hm]

namespace Devices

theorem unfixed_marked (st : State) (L : List LinuxDevice) :
    applyUnfixed st (L.filter (fun d => isMarked d.path)) = (removals st.1 L, st.2) := by
  unfold applyUnfixed removals
  rw [List.foldl_filter]
  exact List.foldl_hom (fun ds => (ds, st.2)) fun ds d => by cases isMarked d.path <;> rfl

theorem unfixed_unmarked (st : State) (L : List LinuxDevice) :
    applyUnfixed st (L.filter (fun d => !isMarked d.path)) = sets st L := by
  unfold applyUnfixed sets
  rw [List.foldl_filter]
  congr
  funext st d
  cases hm : isMarked d.path
  · simp [setStep, strip_of_not_marked hm]
  · rfl

theorem apply_eq_unfixed (st : State) (L : List LinuxDevice) :
    apply st L = applyUnfixed st (removalsFirst LinuxDevice.path L) := by
  unfold removalsFirst
  have : applyUnfixed st (L.filter (fun d => isMarked d.path) ++ L.filter (fun d => !isMarked d.path)) =
      applyUnfixed (applyUnfixed st (L.filter (fun d => isMarked d.path))) (L.filter (fun d => !isMarked d.path)) := by
    unfold applyUnfixed; rw [List.foldl_append]
  rw [this, unfixed_marked, unfixed_unmarked]; rfl

end Devices

namespace Mounts

theorem loopUnfixed_append (hp : Str → Str) (st : State) (A B : List Api.Mount) :
    loopUnfixed hp st (A ++ B) =
      match loopUnfixed hp st A with
      | .ok st' => loopUnfixed hp st' B
      | .error e => .error e := by
  induction A generalizing st with
  | nil => rfl
  | cons m r ih =>
    simp only [List.cons_append, loopUnfixed]
    cases hm : isMarked m.destination
    · simp only [Bool.false_eq_true, if_false]
      cases setStep hp st m with
      | ok st' => exact ih st'
      | error e => rfl
    · simp only [if_true]; exact ih _

theorem unfixed_marked (hp : Str → Str) (st : State) (L : List Api.Mount) :
    loopUnfixed hp st (L.filter (fun m => isMarked m.destination)) =
      .ok { st with mounts := removals st.mounts L } := by
  induction L generalizing st with
  | nil => rfl
  | cons m r ih =>
    cases hm : isMarked m.destination
    · simp only [List.filter_cons, hm, Bool.false_eq_true, if_false]
      rw [ih]; simp [removals, hm]
    · simp only [List.filter_cons, hm, if_true, loopUnfixed]
      rw [ih]; simp [removals, hm]

theorem unfixed_unmarked (hp : Str → Str) (st : State) (L : List Api.Mount) :
    loopUnfixed hp st (L.filter (fun m => !isMarked m.destination)) = sets hp st L := by
  induction L generalizing st with
  | nil => rfl
  | cons m r ih =>
    cases hm : isMarked m.destination
    · simp only [List.filter_cons, hm, Bool.not_false, if_true, loopUnfixed, sets,
        Bool.false_eq_true, if_false]
      cases setStep hp st m with
      | ok st' => exact ih st'
      | error e => rfl
    · simp only [List.filter_cons, hm, Bool.not_true, Bool.false_eq_true, if_false, sets, if_true]
      exact ih st

theorem apply_eq_unfixed (hp : Str → Str) (ms : List Oci.Mount) (rootfs : Str) (L : List Api.Mount) :
    apply hp ms rootfs L = applyUnfixed hp ms rootfs (removalsFirst Api.Mount.destination L) := by
  unfold apply applyUnfixed
  rw [removalsFirst_isEmpty]
  cases L.isEmpty
  · simp only [Bool.false_eq_true, if_false]
    unfold removalsFirst
    rw [loopUnfixed_append, unfixed_marked]
    simp only
    rw [unfixed_unmarked]
  · rfl

end Mounts

namespace Env

theorem phase2_removalsFirst (md : AList Str KeyValue) (acc : AList Str Str) (env : List KeyValue) :
    phase2 md acc (removalsFirst KeyValue.key env) = phase2 md acc env := by
  unfold removalsFirst phase2
  rw [List.foldl_append, List.foldl_filter, List.foldl_filter]
  -- the marked entries do nothing, the unmarked ones what they do in `env`
  rw [List.foldlRecOn (motive := (· = acc)) env _ rfl fun m hm e _ => by
    cases isMarked e.key <;> exact hm]
  congr
  funext m e
  cases isMarked e.key <;> rfl

theorem apply_eq_unfixed (old : List Str) (env : List KeyValue) :
    apply old env = applyUnfixed old (removalsFirst KeyValue.key env) := by
  unfold apply applyUnfixed applyWith mod
  rw [removalsFirst_isEmpty]
  simp only [phase2_removalsFirst]

end Env
end Nri.Generate
