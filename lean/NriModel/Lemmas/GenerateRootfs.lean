/-
The rootfs propagation after `AdjustMounts`: the loop's result equals the declarative
`Check.expectedRootfs` (raised to the strongest propagation an applied mount asks for, never
lowered, independent of the order in which the entries ask).  Also: the driver's Boolean
sortedness test accepts every `Mounts.Sorted` list.
-/
import NriModel.Lemmas.GenerateSpec
import NriModel.Lemmas.GenerateMounts

namespace Nri.Generate
open Nri.Api

namespace Mounts
open Check

theorem rshared_ne_rslave : str "rshared" ≠ str "rslave" := by decide

theorem raiseRootfs_single (old p : Str) :
    raiseRootfs old [p] =
      if p = str "rshared" then str "rshared"
      else if p = str "rslave" then (if old ≠ str "rshared" ∧ old ≠ str "rslave" then str "rslave" else old)
      else old := by
  unfold raiseRootfs
  -- only the two names being different matters
  have hne := rshared_ne_rslave
  generalize str "rshared" = A at hne ⊢
  generalize str "rslave" = B at hne ⊢
  by_cases h1 : p = A
  · subst h1; simp
  · by_cases h2 : p = B
    · -- asked for `rslave`: by whether the original is already `rshared` or `rslave`
      subst h2
      by_cases c1 : old = A <;> by_cases c2 : old = p <;> simp [hne, c1, c2]
    · simp [h1, h2, Ne.symm h1, Ne.symm h2]

/-- Raising twice is raising by the concatenated requests. -/
theorem raiseRootfs_cons (old p : Str) (reqs : List Str) :
    raiseRootfs (raiseRootfs old [p]) reqs = raiseRootfs old (p :: reqs) := by
  rw [raiseRootfs_single]
  unfold raiseRootfs
  have hne := rshared_ne_rslave
  generalize str "rshared" = A at hne ⊢
  generalize str "rslave" = B at hne ⊢
  by_cases h1 : p = A
  · -- `rshared` first: it stays, whatever follows
    subst h1; simp
  · by_cases h2 : p = B
    · -- `rslave` first: what it leaves is `rshared` or `rslave`, so the later requests can only
      -- still raise it to `rshared`; the same holds of `rslave :: reqs` on the original
      subst h2
      by_cases b1 : A ∈ reqs <;> by_cases c1 : old = A <;> by_cases c2 : old = p <;>
        simp [hne, Ne.symm hne, b1, c1, c2]
    · -- any other request changes nothing and is neither name
      simp [h1, h2, Ne.symm h1, Ne.symm h2]

theorem sets_rootfs_eq {hp : Str → Str} (L : List Api.Mount) {st st' : State}
    (h : sets hp st L = .ok st') :
    st'.rootfs = raiseRootfs st.rootfs (propRequests st.prop L) := by
  induction L generalizing st with
  | nil =>
    simp only [sets] at h; cases h
    simp [propRequests, raiseRootfs]
  | cons m r ih =>
    unfold sets at h
    unfold propRequests
    split at h
    · rename_i hm; simp only [hm, if_true]; exact ih h
    · rename_i hm
      simp only [hm, Bool.false_eq_true, if_false]
      split at h
      · rename_i st1 h1
        rw [ih h, (setStep_ok h1).2.1, (setStep_ok h1).2.2, ← raiseRootfs_single, raiseRootfs_cons]
      · cases h

theorem apply_rootfs_eq {hp : Str → Str} {ms ms' : List Oci.Mount} {rootfs rootfs' : Str}
    {L : List Api.Mount} (h : apply hp ms rootfs L = .ok (ms', rootfs')) :
    rootfs' = expectedRootfs rootfs L := by
  unfold apply at h
  split at h
  · rename_i he
    have := congrArg Prod.snd (Except.ok.inj h)
    simp only at this
    rw [← this]
    have : L = [] := by simpa using he
    subst this
    simp [expectedRootfs, propRequests, raiseRootfs]
  · split at h
    · rename_i st hst
      have := congrArg Prod.snd (Except.ok.inj h)
      simp only at this
      rw [← this]
      exact sets_rootfs_eq L hst
    · cases h

/-- Entries whose options name neither `rshared` nor `rslave` ask for neither (the query
    variable is carried over from entry to entry, so `prev` has to be quiet too). -/
theorem propRequests_quiet {L : List Api.Mount} {prev : Str}
    (hprev : prev ≠ str "rshared" ∧ prev ≠ str "rslave")
    (hL : ∀ m ∈ L, isMarked m.destination = false →
      ∀ o ∈ m.options, o ≠ str "rshared" ∧ o ≠ str "rslave") :
    ∀ p ∈ propRequests prev L, p ≠ str "rshared" ∧ p ≠ str "rslave" := by
  induction L generalizing prev with
  | nil => nofun
  | cons m r ih =>
    have hr := fun x hx => hL x (List.mem_cons_of_mem _ hx)
    unfold propRequests
    split
    · exact ih hprev hr
    · rename_i hm
      have hq : m.propagationQuery prev ≠ str "rshared" ∧ m.propagationQuery prev ≠ str "rslave" :=
        List.foldlRecOn (motive := fun p => p ≠ str "rshared" ∧ p ≠ str "rslave") m.options _ hprev
          fun p hp o ho => by
          split
          · exact hL m (List.mem_cons_self ..) (by simpa using hm) o ho
          · exact hp
      intro p hp
      rcases List.mem_cons.mp hp with hp | hp
      · exact hp ▸ hq
      · exact ih hq hr p hp

theorem expectedRootfs_of_quiet {L : List Api.Mount} (old : Str)
    (hL : ∀ m ∈ L, isMarked m.destination = false →
      ∀ o ∈ m.options, o ≠ str "rshared" ∧ o ≠ str "rslave") : expectedRootfs old L = old := by
  have h := propRequests_quiet (prev := []) (by decide) hL
  rw [expectedRootfs, raiseRootfs, if_neg, if_neg]
  · simpa using fun hc _ => ((h _ hc).2 rfl).elim
  · simpa using fun hc => (h _ hc).1 rfl

theorem sortedMounts_of_sorted {l : List Oci.Mount} (hs : Sorted l) :
    sortedMounts l = true := by
  unfold Sorted at hs
  induction l with
  | nil => rfl
  | cons x r ih =>
    cases r with
    | nil => rfl
    | cons y t =>
      rw [List.pairwise_cons] at hs
      simp only [sortedMounts, hs.1 y (by simp), Bool.not_false, Bool.true_and]
      exact ih hs.2

end Mounts
end Nri.Generate
