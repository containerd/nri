/-
Facts about `Nri.Launch` for the C18 theorems, in the order of a start-up: names and the order
of two-digit indices, sorting by name, what `discoverLoop` finds (functional induction over the
loop), what `startOne` does to each kind of plugin, and the invariant `Held` between start-up
and `Stop`.
-/
import NriModel.Launch

namespace Nri.Launch
open Nri

/-- the error of a failed computation, if any (`Except` has no decidable equality) -/
def failure {α : Type} : Except Err α → Option Err
  | .error e => some e
  | .ok _ => none

/-- lets the kernel evaluate a test vector of the form `∃ a, x = .ok a ∧ …` -/
theorem exists_ok_of_any {ε α : Type} {x : Except ε α} {p : α → Prop} [DecidablePred p]
    (h : x.toOption.any (fun a => decide (p a)) = true) : ∃ a, x = .ok a ∧ p a := by
  cases x with
  | error e => cases h
  | ok a => exact ⟨a, rfl, of_decide_eq_true h⟩

theorem splitDash_some {name idx base : Str} (h : splitDash name = some (idx, base)) :
    name = idx ++ ('-' :: base) ∧ '-' ∉ idx := by
  induction name generalizing idx with
  | nil => cases h
  | cons c cs ih =>
    unfold splitDash at h
    split at h
    · rename_i hc        -- the first dash
      cases h
      simp [hc]
    · rename_i hc        -- not a dash
      split at h
      · rename_i a b hs
        cases h
        obtain ⟨h1, h2⟩ := ih hs
        simp [h1, h2, Ne.symm hc]
      · cases h

theorem splitDash_nodash {name idx base : Str} (h : splitDash name = some (idx, base)) :
    '-' ∉ idx :=
  (splitDash_some h).2

theorem splitDash_of_join {idx base : Str} (h : '-' ∉ idx) :
    splitDash (idx ++ ('-' :: base)) = some (idx, base) := by
  induction idx with
  | nil => simp [splitDash]
  | cons c cs ih =>
    simp only [List.mem_cons, not_or] at h
    simp [splitDash, Ne.symm h.1, ih h.2]

theorem checkIndex_shape {idx : Str} (h : checkIndex idx = true) :
    ∃ a b, idx = [a, b] ∧ isDigit a = true ∧ isDigit b = true := by
  unfold checkIndex at h
  split at h
  · exact ⟨_, _, rfl, (Bool.and_eq_true _ _).mp h⟩
  · cases h

theorem char_lt_iff {a b : Char} : a < b ↔ a.toNat < b.toNat :=
  Char.lt_def.trans UInt32.lt_iff_toNat_lt

theorem isDigit_val {c : Char} (h : isDigit c = true) : 48 ≤ c.toNat ∧ c.toNat ≤ 57 := by
  simpa [isDigit, Char.le_def, UInt32.le_iff_toNat_le] using h

theorem isDigit_ne_dash {c : Char} (h : isDigit c = true) : c ≠ '-' := by
  rintro rfl
  have := isDigit_val h
  simp at this

theorem parsePluginName_iff {name idx base : Str} :
    parsePluginName name = some (idx, base) ↔ checkIndex idx = true ∧ name = idx ++ ('-' :: base) := by
  constructor
  · intro h
    unfold parsePluginName at h
    split at h
    · cases h
    · rename_i i b hs
      split at h
      · rename_i hc
        cases h
        exact ⟨hc, (splitDash_some hs).1⟩
      · cases h
  · rintro ⟨h, rfl⟩
    have hnd : '-' ∉ idx := by
      obtain ⟨a, b, rfl, ha, hb⟩ := checkIndex_shape h
      simp [Ne.symm (isDigit_ne_dash ha), Ne.symm (isDigit_ne_dash hb)]
    simp [parsePluginName, splitDash_of_join hnd, h]

/-- for two-digit indices the string order Go's `sortPlugins` uses (`p.idx < q.idx`) is the
    numeric order — leading zeros included ("08" and "09" lie between "07" and "10") -/
theorem idx_strLe_iff {i1 i2 : Str} (h1 : checkIndex i1 = true) (h2 : checkIndex i2 = true) :
    strLe i1 i2 = true ↔ idxVal i1 ≤ idxVal i2 := by
  obtain ⟨a1, c1, rfl, ha1, hc1⟩ := checkIndex_shape h1
  obtain ⟨a2, c2, rfl, ha2, hc2⟩ := checkIndex_shape h2
  have da1 := isDigit_val ha1; have dc1 := isDigit_val hc1
  have da2 := isDigit_val ha2; have dc2 := isDigit_val hc2
  -- in terms of the four code points, each between 48 and 57, both sides are linear arithmetic
  simp only [strLe, idxVal, Bool.or_eq_true, Bool.and_eq_true, decide_eq_true_eq, and_true,
    char_lt_iff, ← Char.toNat_inj]
  omega

theorem idx_le_of_name_le {i1 b1 i2 b2 : Str} (h1 : checkIndex i1 = true) (h2 : checkIndex i2 = true)
    (hle : strLe (i1 ++ ('-' :: b1)) (i2 ++ ('-' :: b2)) = true) : idxVal i1 ≤ idxVal i2 := by
  refine (idx_strLe_iff h1 h2).mp ?_
  obtain ⟨a1, c1, rfl, -⟩ := checkIndex_shape h1
  obtain ⟨a2, c2, rfl, -⟩ := checkIndex_shape h2
  -- the order of the names is decided within the two digits or not at all
  simp only [List.cons_append, List.nil_append, strLe, Bool.or_eq_true, Bool.and_eq_true,
    decide_eq_true_eq, and_true] at hle ⊢
  exact hle.imp_right (And.imp_right (Or.imp_right And.left))

theorem strLe_iff_le {a b : Str} : strLe a b = true ↔ a ≤ b := by
  induction a generalizing b with
  | nil => simp [strLe]
  | cons x xs ih =>
    cases b with
    | nil => simp [strLe]
    | cons y ys => simp [strLe, List.cons_le_cons_iff, ih]

theorem strLe_refl (a : Str) : strLe a a = true :=
  strLe_iff_le.mpr (List.le_refl a)

theorem strLe_total (a b : Str) : strLe a b = true ∨ strLe b a = true := by
  simpa only [strLe_iff_le] using List.le_total a b

theorem strLe_trans {a b c : Str} (h1 : strLe a b = true) (h2 : strLe b c = true) : strLe a c = true :=
  strLe_iff_le.mpr (List.le_trans (strLe_iff_le.mp h1) (strLe_iff_le.mp h2))

def nameLe (a b : Entry) : Prop := strLe a.name b.name = true

theorem insertByName_perm (e : Entry) (l : List Entry) : (insertByName e l).Perm (e :: l) := by
  induction l with
  | nil => exact .refl _
  | cons y ys ih =>
    unfold insertByName
    split
    · exact .refl _
    · exact (ih.cons y).trans (.swap e y ys)

theorem sortByName_perm (l : List Entry) : (sortByName l).Perm l := by
  induction l with
  | nil => exact .refl _
  | cons e es ih => exact (insertByName_perm e _).trans (ih.cons e)

theorem insertByName_pairwise {e : Entry} {l : List Entry} (h : l.Pairwise nameLe) :
    (insertByName e l).Pairwise nameLe := by
  induction l with
  | nil => simp [insertByName]
  | cons y ys ih =>
    unfold insertByName
    rw [List.pairwise_cons] at h
    split
    · rename_i hle       -- `e` goes in front
      exact List.pairwise_cons.mpr
        ⟨List.forall_mem_cons.mpr ⟨hle, fun z hz => strLe_trans hle (h.1 z hz)⟩, List.pairwise_cons.mpr h⟩
    · rename_i hnle      -- `e` goes further down: `y` is below it by totality
      refine List.pairwise_cons.mpr ⟨fun z hz => ?_, ih h.2⟩
      rcases List.mem_cons.mp ((insertByName_perm e ys).mem_iff.mp hz) with rfl | hz
      · exact (strLe_total _ _).resolve_left hnle
      · exact h.1 z hz

theorem sortByName_pairwise (l : List Entry) : (sortByName l).Pairwise nameLe := by
  induction l with
  | nil => exact .nil
  | cons e es ih => exact insertByName_pairwise ih

theorem insertByName_filter_of_not {p : Entry → Bool} {e : Entry} (l : List Entry) (h : p e = false) :
    (insertByName e l).filter p = l.filter p := by
  induction l with
  | nil => simp [insertByName, h]
  | cons y ys ih =>
    unfold insertByName
    split
    · simp [List.filter_cons, h]
    · simp [List.filter_cons, ih]

/-- "an executable file named with a two-digit index, a dash and a name" as the scan sees
    it: not a directory, some execute bit, name of the shape `NN-name` -/
def isPlugin (e : Entry) : Bool := candidate e && (parsePluginName e.name).isSome

theorem discoverLoop_filter (d : Dropins) (l : List Entry) :
    discoverLoop d l = discoverLoop d (l.filter isPlugin) := by
  -- in every branch of the loop both sides compute to the same thing, given the branch's facts
  -- and the hypothesis for the remaining entries
  fun_induction discoverLoop d l <;> simp_all [isPlugin, discoverLoop]

theorem discoverLoop_ok {d : Dropins} {l : List Entry} {fs : List Found}
    (h : discoverLoop d l = .ok fs) :
    fs.map Found.fileName = (l.filter isPlugin).map (·.name) ∧
    fs.map (·.exec) = (l.filter isPlugin).map (·.exec) ∧
    (∀ f ∈ fs, checkIndex f.idx = true ∧ configFor d f.idx f.base = .ok f.cfg) := by
  revert h
  fun_induction discoverLoop d l generalizing fs with
  | case1 => rintro ⟨⟩; simp                   -- no entries
  | case2 e es hc ih =>                        -- not a candidate: passed over
    intro h
    rw [List.filter_cons_of_neg (by simp_all [isPlugin])]
    exact ih h
  | case3 e es hc hp ih =>                     -- name does not parse: passed over
    intro h
    rw [List.filter_cons_of_neg (by simp [isPlugin, hp])]
    exact ih h
  | case4 => intro h; cases h                  -- configuration unreadable
  | case5 => intro h; cases h                  -- the remaining entries fail
  | case6 e es hc i b hp cfg hcfg fs' hrest ih =>   -- a plugin, and the remaining entries succeed
    rintro ⟨⟩
    obtain ⟨hidx, hname⟩ := parsePluginName_iff.mp hp
    have hpl : isPlugin e = true := by simpa [isPlugin, hp] using hc
    obtain ⟨ih1, ih2, ih3⟩ := ih hrest
    rw [List.filter_cons_of_pos hpl]
    exact ⟨by rw [List.map_cons, List.map_cons, ih1, hname]; rfl, congrArg _ ih2, List.forall_mem_cons.mpr ⟨⟨hidx, hcfg⟩, ih3⟩⟩

theorem firstConfig_total {d : Dropins} (hd : ∀ k, AList.lookup d k ≠ some .dir) (ps : List Str) :
    ∃ c, firstConfig d ps = .ok c := by
  induction ps with
  | nil => exact ⟨[], rfl⟩
  | cons p ps ih =>
    unfold firstConfig
    split
    · exact ⟨_, rfl⟩
    · exact absurd ‹_› (hd p)
    · exact ih

theorem discoverLoop_total {d : Dropins} (hd : ∀ k, AList.lookup d k ≠ some .dir) (l : List Entry) :
    ∃ fs, discoverLoop d l = .ok fs := by
  fun_induction discoverLoop d l with
  | case1 => exact ⟨_, rfl⟩                            -- no entries
  | case2 e es hc ih => exact ih                       -- not a candidate: passed over
  | case3 e es hc hp ih => exact ih                    -- name does not parse: passed over
  | case4 e es hc i b hp err hcfg =>                   -- configuration unreadable: excluded by `hd`
    obtain ⟨c, hc⟩ : ∃ c, configFor d i b = .ok c := firstConfig_total hd _
    cases hcfg.symm.trans hc
  | case5 e es hc i b hp cfg hcfg err hrest ih =>      -- the remaining entries fail: excluded by `ih`
    obtain ⟨fs, hfs⟩ := ih
    cases hrest.symm.trans hfs
  | case6 => exact ⟨_, rfl⟩                            -- a plugin, and the remaining entries succeed

@[simp] theorem startOne_found (f : Found) : (startOne f).found = f := by
  unfold startOne
  split <;> rfl

theorem map_startOne_found (fs : List Found) : (fs.map startOne).map (·.found) = fs := by
  simp [List.map_map, Function.comp_def]

theorem startUpOf_active_sublist (fs : List Found) : (startUpOf fs startOne).active.Sublist fs := by
  have := (List.filter_sublist (p := syncOk) (l := fs.map startOne)).map (·.found)
  rwa [map_startOne_found] at this

theorem startOne_process (f : Found) : (startOne f).process = true ↔ ∃ b, f.exec = .runs b := by
  unfold startOne
  split <;> simp [*]

theorem startOne_stoppedEventually (f : Found) (h : (startOne f).process = true) :
    stoppedEventually (startOne f) = true := by
  unfold stoppedEventually
  unfold startOne at h ⊢
  split <;> simp_all

theorem syncOk_startOne (f : Found) :
    syncOk (startOne f) = true ↔
      f.exec = .runs .ok ∨ f.exec = .runs .diesLater ∨
      f.exec = .runs .closesWhenIdle ∨ f.exec = .runs .exitsWhenIdle := by
  unfold syncOk startOne
  cases hex : f.exec with
  | cannot => simp
  | runs b => cases b <;> simp [hex]

theorem syncOk_of_create_mem {s : Started} {reqs n : Nat} (h : Ev.create n ∈ eventsOf s reqs) :
    syncOk s = true := by
  cases hs : syncOk s
  · simp [eventsOf, hs] at h
  · rfl

def Held (st : RunState) (f : Found) : Prop := f ∈ st.plugins.map (·.1) ∨ f ∈ st.stopped

theorem held_step {st : RunState} {f : Found} (h : Held st f) (s : Step) : Held (step st s) f := by
  cases s with
  | request =>
    rcases h with hin | hin
    · obtain ⟨p, hp, rfl⟩ := List.mem_map.mp hin
      have hq := List.mem_map_of_mem
        (f := fun p : Found × Bool => (p.1, p.2 || decide (p.1.exec = .runs .diesLater))) hp
      -- flagged or not, the plugin is on one side of the partition
      cases hc : p.2 || decide (p.1.exec = .runs .diesLater)
      · exact .inl (List.mem_map.mpr ⟨_, List.mem_filter.mpr ⟨hq, by simp [hc]⟩, rfl⟩)
      · exact .inr (List.mem_append_right _ (List.mem_map.mpr ⟨_, List.mem_filter.mpr ⟨hq, hc⟩, rfl⟩))
    · exact .inr (List.mem_append_left _ hin)
  | idle =>
    -- only flags change
    refine h.imp_left fun hin => ?_
    show f ∈ (st.plugins.map _).map _
    rwa [List.map_map]

theorem pairwise_sortedByIdx {l : List Found} (h : l.Pairwise fun a b => idxVal a.idx ≤ idxVal b.idx) :
    sortedByIdx l = true := by
  induction l with
  | nil => rfl
  | cons a rest ih =>
    cases rest with
    | nil => rfl
    | cons b rest' =>
      rw [List.pairwise_cons] at h
      simp only [sortedByIdx, Bool.and_eq_true, decide_eq_true_eq]
      exact ⟨h.1 b (by simp), ih h.2⟩

end Nri.Launch
