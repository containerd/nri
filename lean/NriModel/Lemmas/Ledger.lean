/-
Helper lemmas about the ownership ledger of the result.go model: `claim`, `clear`,
`clearAll`, `claimAll`, `claimAllPartial`.
-/
import NriModel.Result

namespace Nri.Result
open Nri.NApi

theorem owner_clear (o : Owners) (c c' : Cid) (it it' : Item) :
    (clear o c it).owner c' it' = if (c, it) = (c', it') then none else o.owner c' it' := by
  unfold clear Owners.owner
  split
  · rename_i h; rw [← h]; exact AList.lookup_erase_self o (c, it)
  · rename_i h; exact AList.lookup_erase_other o (c, it) (c', it') h

theorem claim_ok_iff (o o' : Owners) (c : Cid) (it : Item) (p : Plugin) :
    claim o c it p = .ok o' ↔ o.owner c it = none ∧ o' = AList.insert o (c, it) p := by
  unfold claim
  cases h : o.owner c it with
  | none => simp; exact eq_comm
  | some q => simp

theorem claim_error_iff (o : Owners) (c : Cid) (it : Item) (p : Plugin) (e : Err) :
    claim o c it p = .error e ↔ ∃ q, o.owner c it = some q ∧ e = .conflict c it p q := by
  unfold claim
  cases h : o.owner c it with
  | none => simp
  | some q => simp; exact eq_comm

theorem owner_insert_self (o : Owners) (c : Cid) (it : Item) (p : Plugin) :
    Owners.owner (AList.insert o (c, it) p) c it = some p := by
  unfold Owners.owner; exact AList.lookup_insert_self o (c, it) p

theorem owner_insert_other (o : Owners) (c c' : Cid) (it it' : Item) (p : Plugin)
    (h : (c, it) ≠ (c', it')) :
    Owners.owner (AList.insert o (c, it) p) c' it' = o.owner c' it' := by
  unfold Owners.owner; exact AList.lookup_insert_other o (c, it) (c', it') p h

theorem owner_clearAll (o : Owners) (c c' : Cid) (its : List Item) (it : Item) :
    (clearAll o c its).owner c' it = if c' = c ∧ it ∈ its then none else o.owner c' it := by
  induction its generalizing o with
  | nil => simp [clearAll]
  | cons x rest ih =>
    rw [clearAll, ih, owner_clear]
    by_cases h : (c, x) = (c', it)
    · cases h; simp
    · have hne : ¬ (c' = c ∧ it = x) := by rintro ⟨rfl, rfl⟩; exact h rfl
      rw [if_neg h]
      by_cases hc : c' = c <;> simp_all

theorem owner_clearAll_mem (o : Owners) (c : Cid) (its : List Item) (it : Item) (h : it ∈ its) :
    (clearAll o c its).owner c it = none := by
  rw [owner_clearAll, if_pos ⟨rfl, h⟩]

theorem owner_clearAll_other (o : Owners) (c c' : Cid) (its : List Item) (it : Item)
    (h : c' ≠ c ∨ it ∉ its) : (clearAll o c its).owner c' it = o.owner c' it := by
  rw [owner_clearAll, if_neg fun ⟨h1, h2⟩ => h.elim (· h1) (· h2)]

theorem owner_clearAll_some (o : Owners) (c c' : Cid) (its : List Item) (it : Item) (q : Plugin)
    (h : (clearAll o c its).owner c' it = some q) : o.owner c' it = some q := by
  rw [owner_clearAll] at h
  split at h
  · cases h
  · exact h

variable (c : Cid) (p : Plugin) (o : Owners)

theorem claimAllPartial_keeps (its : List Item)
    (c' : Cid) (it : Item) (q : Plugin) (ho : o.owner c' it = some q) :
    (claimAllPartial c p o its).1.owner c' it = some q := by
  induction its generalizing o with
  | nil => exact ho
  | cons x rest ih =>
    simp only [claimAllPartial]
    cases hc : claim o c x p with
    | error e => exact ho
    | ok o1 =>
      obtain ⟨hnone, rfl⟩ := (claim_ok_iff o o1 c x p).1 hc
      apply ih
      have hne : (c, x) ≠ (c', it) := by
        intro heq; cases heq; rw [hnone] at ho; cases ho
      rw [owner_insert_other o c c' x it p hne]; exact ho

/-- the partial run reports no error exactly when the total one succeeds, with the same ledger -/
theorem claimAllPartial_none_iff (o' : Owners) (its : List Item) :
    claimAllPartial c p o its = (o', none) ↔ claimAll c p o its = .ok o' := by
  induction its generalizing o with
  | nil => simp [claimAllPartial, claimAll]
  | cons x rest ih =>
    simp only [claimAllPartial, claimAll]
    cases hc : claim o c x p with
    | error e => simp
    | ok o1 => exact ih o1

theorem claimAllPartial_some_iff (its : List Item) (e : Err) :
    (claimAllPartial c p o its).2 = some e ↔ claimAll c p o its = .error e := by
  induction its generalizing o with
  | nil => simp [claimAllPartial, claimAll]
  | cons x rest ih =>
    simp only [claimAllPartial, claimAll]
    cases hc : claim o c x p with
    | error e' => simp
    | ok o1 => exact ih o1

theorem claimAllPartial_owner_inv (its : List Item)
    (c' : Cid) (it : Item) (q : Plugin)
    (ho : (claimAllPartial c p o its).1.owner c' it = some q) :
    o.owner c' it = some q ∨ (c' = c ∧ it ∈ its ∧ q = p) := by
  induction its generalizing o with
  | nil => exact .inl ho
  | cons x rest ih =>
    simp only [claimAllPartial] at ho
    cases hc : claim o c x p with
    | error e => rw [hc] at ho; exact .inl ho
    | ok o1 =>
      rw [hc] at ho
      obtain ⟨_, rfl⟩ := (claim_ok_iff o o1 c x p).1 hc
      cases ih _ ho with
      | inl h1 =>
        by_cases heq : (c, x) = (c', it)
        · cases heq
          rw [owner_insert_self] at h1
          exact .inr ⟨rfl, List.mem_cons_self, (Option.some.inj h1).symm⟩
        · rw [owner_insert_other o c c' x it p heq] at h1; exact .inl h1
      | inr h2 => exact .inr ⟨h2.1, List.mem_cons_of_mem _ h2.2.1, h2.2.2⟩

theorem claimAll_cons_ok_iff (o' : Owners) (x : Item) (rest : List Item) :
    claimAll c p o (x :: rest) = .ok o' ↔
      o.owner c x = none ∧ claimAll c p (AList.insert o (c, x) p) rest = .ok o' := by
  simp only [claimAll, claim]
  cases o.owner c x <;> simp

theorem claimAll_keeps (o' : Owners) (its : List Item)
    (h : claimAll c p o its = .ok o') (c' : Cid) (it : Item) (q : Plugin)
    (ho : o.owner c' it = some q) : o'.owner c' it = some q := by
  have := claimAllPartial_keeps c p o its c' it q ho
  rwa [(claimAllPartial_none_iff c p o o' its).2 h] at this

theorem claimAll_owner_inv (o' : Owners) (its : List Item)
    (h : claimAll c p o its = .ok o') (c' : Cid) (it : Item) (q : Plugin)
    (ho : o'.owner c' it = some q) : o.owner c' it = some q ∨ (c' = c ∧ it ∈ its ∧ q = p) :=
  claimAllPartial_owner_inv c p o its c' it q (by rwa [(claimAllPartial_none_iff c p o o' its).2 h])

theorem claimAll_owns (o' : Owners) (its : List Item)
    (h : claimAll c p o its = .ok o') (it : Item) (hm : it ∈ its) : o'.owner c it = some p := by
  induction its generalizing o with
  | nil => cases hm
  | cons x rest ih =>
    obtain ⟨_, h⟩ := (claimAll_cons_ok_iff c p o o' x rest).1 h
    cases hm with
    | head => exact claimAll_keeps c p _ o' rest h c it p (owner_insert_self o c it p)
    | tail _ hm' => exact ih _ h hm'

/-- `claimAll` succeeds exactly on a list of free items that names none twice -/
theorem claimAll_ok_iff (its : List Item) :
    (∃ o', claimAll c p o its = .ok o') ↔ (∀ it ∈ its, o.owner c it = none) ∧ its.Nodup := by
  induction its generalizing o with
  | nil => exact ⟨fun _ => ⟨fun _ hm => (nomatch hm), List.nodup_nil⟩, fun _ => ⟨o, rfl⟩⟩
  | cons x rest ih =>
    -- once `x` is claimed, an item is free iff it was and is not `x`
    have key : ∀ it, Owners.owner (AList.insert o (c, x) p) c it = none ↔ o.owner c it = none ∧ it ≠ x := by
      intro it
      by_cases heq : it = x
      · rw [heq, owner_insert_self]
        exact ⟨nofun, fun h => (h.2 rfl).elim⟩
      · rw [owner_insert_other o c c x it p fun h => heq (by cases h; rfl)]
        exact (and_iff_left heq).symm
    rw [List.forall_mem_cons, List.nodup_cons]
    constructor
    · rintro ⟨o', ho'⟩
      obtain ⟨hx, ho'⟩ := (claimAll_cons_ok_iff c p o o' x rest).1 ho'
      obtain ⟨h, hnd⟩ := (ih _).1 ⟨o', ho'⟩
      exact ⟨⟨hx, fun it hm => ((key it).1 (h it hm)).1⟩, fun hm => ((key x).1 (h x hm)).2 rfl, hnd⟩
    · rintro ⟨⟨hx, h⟩, hnm, hnd⟩
      obtain ⟨o', ho'⟩ := (ih _).2 ⟨fun it hm => (key it).2 ⟨h it hm, fun heq => hnm (heq ▸ hm)⟩, hnd⟩
      exact ⟨o', (claimAll_cons_ok_iff c p o o' x rest).2 ⟨hx, ho'⟩⟩

theorem claimAll_fails_of_owned (its : List Item) (it : Item)
    (q : Plugin) (ho : o.owner c it = some q) (hm : it ∈ its) : ∃ e, claimAll c p o its = .error e := by
  cases h : claimAll c p o its with
  | error e => exact ⟨e, rfl⟩
  | ok o' =>
    rw [((claimAll_ok_iff c p o its).1 ⟨o', h⟩).1 it hm] at ho
    cases ho

/-- the item a failing `claimAll` names had an owner before the run, or the list names it twice
    and the claimant conflicts with its own earlier claim -/
theorem claimAll_error_inv (its : List Item) (e : Err)
    (h : claimAll c p o its = .error e) :
    ∃ it q, it ∈ its ∧ e = .conflict c it p q ∧
      (o.owner c it = some q ∨ (q = p ∧ 2 ≤ its.count it)) := by
  induction its generalizing o with
  | nil => simp [claimAll] at h
  | cons x rest ih =>
    simp only [claimAll] at h
    cases hc : claim o c x p with
    | error e' =>
      rw [hc] at h; cases h
      obtain ⟨q, hq, rfl⟩ := (claim_error_iff o c x p e).1 hc
      exact ⟨x, q, List.mem_cons_self, rfl, .inl hq⟩
    | ok o1 =>
      rw [hc] at h
      obtain ⟨hnone, rfl⟩ := (claim_ok_iff o o1 c x p).1 hc
      obtain ⟨it, q, hm, he, hw⟩ := ih _ h
      refine ⟨it, q, List.mem_cons_of_mem _ hm, he, ?_⟩
      cases hw with
      | inl h1 =>
        by_cases heq : x = it
        · subst heq
          rw [owner_insert_self] at h1
          refine .inr ⟨(Option.some.inj h1).symm, ?_⟩
          have : 1 ≤ rest.count x := List.count_pos_iff.2 hm
          simp; omega
        · have hne : (c, x) ≠ (c, it) := by intro h'; cases h'; exact heq rfl
          rw [owner_insert_other o c c x it p hne] at h1; exact .inl h1
      | inr h2 =>
        refine .inr ⟨h2.1, ?_⟩
        have := h2.2
        simp [List.count_cons]; omega

theorem claimAll_ok_nodup (c : Cid) (p : Plugin) (o o' : Owners) (its : List Item)
    (h : claimAll c p o its = .ok o') : its.Nodup :=
  ((claimAll_ok_iff c p o its).1 ⟨o', h⟩).2

theorem owner_insert_isSome (o : Owners) (c c' : Cid) (x it' : Item) (p : Plugin) :
    (Owners.owner (AList.insert o (c, x) p) c' it').isSome = true ↔
      (c' = c ∧ it' = x) ∨ (o.owner c' it').isSome = true := by
  by_cases heq : (c, x) = (c', it')
  · cases heq; simp [owner_insert_self]
  · have hne : ¬ (c' = c ∧ it' = x) := fun h => heq (by rw [h.1, h.2])
    simp [owner_insert_other o c c' x it' p heq, hne]

end Nri.Result
