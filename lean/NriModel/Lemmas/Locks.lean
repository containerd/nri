/-
The inductive invariant of the sync-lock model (`Nri.Locks`), its preservation by every step
and the facts the C08 property theorems are read off from.

`step?` is used through one equation per event (`step?_block` …): when the event is accepted
and what the next state is. The invariant `Good` is the conjunction of three parts, each about
few components of the state (`good_iff`), so that an event only has to re-establish the parts
whose components it changes.
-/
import NriModel.Locks
import NriModel.Lemmas.Run
import NriModel.Lemmas.AList

namespace Nri.Locks

@[simp] theorem setP_same (pl : Pid → PState) (p : Pid) (x : PState) : setP pl p x p = x := by
  simp [setP]

theorem setP_other (pl : Pid → PState) {p q : Pid} (x : PState) (h : q ≠ p) :
    setP pl p x q = pl q := by
  simp [setP, h]

@[simp] theorem setP_setP (pl : Pid → PState) (p : Pid) (x y : PState) :
    setP (setP pl p x) p y = setP pl p y := by
  funext q; unfold setP; split <;> rfl

theorem forall_setP {P : Pid → PState → Prop} {pl : Pid → PState} {p : Pid} {x : PState}
    (hx : P p x) (h : ∀ q, q ≠ p → P q (pl q)) (q : Pid) : P q (setP pl p x q) := by
  unfold setP
  split
  · next hq => exact hq ▸ hx
  · next hq => exact h q hq

@[simp] theorem deliver_phase (pl : Pid → PState) (c : Cid) (q : Pid) :
    (deliver pl c q).phase = (pl q).phase := by
  unfold deliver deliver1; split <;> rfl

@[simp] theorem deliver_snap (pl : Pid → PState) (c : Cid) (q : Pid) :
    (deliver pl c q).snap = (pl q).snap := by
  unfold deliver deliver1; split <;> rfl

theorem deliver_got_active (pl : Pid → PState) (c : Cid) (q : Pid) (h : (pl q).phase = .active) :
    (deliver pl c q).got = c :: (pl q).got := by
  unfold deliver deliver1; simp [h]

theorem deliver_got_inactive (pl : Pid → PState) (c : Cid) (q : Pid) (h : (pl q).phase ≠ .active) :
    (deliver pl c q).got = (pl q).got := by
  unfold deliver deliver1; simp [h]

variable {s s' : State} {b : Bid} {c : Cid} {p : Pid}

theorem step?_block : step? s (.block b) = some s' ↔
    (s.writer = none ∧ b ∉ s.holding) ∧ { s with holding := b :: s.holding } = s' :=
  Option.ite_some_none_eq_some

/-- the relay is the first half of the creation if `c` is not yet recorded, else the second -/
theorem step?_relay : step? s (.relay b c) = some s' ↔
    (b ∈ s.holding ∧ c ∉ s.sent) ∧ (c ∈ s.store → (b, c) ∈ s.half) ∧
      { s with sent := c :: s.sent, pl := deliver s.pl c,
               half := if c ∈ s.store then s.half.erase (b, c) else (b, c) :: s.half } = s' := by
  simp only [step?, Option.ite_none_right_eq_some]
  by_cases h : c ∈ s.store <;> simp [h]

theorem step?_record : step? s (.record b c) = some s' ↔
    (b ∈ s.holding ∧ c ∉ s.store) ∧ (c ∈ s.sent → (b, c) ∈ s.half) ∧
      { s with store := c :: s.store,
               half := if c ∈ s.sent then s.half.erase (b, c) else (b, c) :: s.half } = s' := by
  simp only [step?, Option.ite_none_right_eq_some]
  by_cases h : c ∈ s.sent <;> simp [h]

/-- releasing a block that is not held erases nothing -/
theorem step?_unblock : step? s (.unblock b) = some s' ↔
    (b ∈ s.holding → ∀ x ∈ s.half, x.1 ≠ b) ∧ { s with holding := s.holding.erase b } = s' := by
  simp only [step?]
  split
  · next h => simp only [Option.ite_some_none_eq_some, h, true_imp_iff]
  · next h => simp only [h, false_imp_iff, true_and, List.erase_of_not_mem h, Option.some.injEq]

theorem step?_unblock_not_held (hb : b ∉ s.holding) : step? s (.unblock b) = some s := by
  simp [step?, hb]

theorem step?_syncBegin : step? s (.syncBegin p) = some s' ↔
    (s.writer = none ∧ s.holding = [] ∧ (s.pl p).phase = .idle) ∧
      { s with writer := some p, pl := setP s.pl p { phase := .syncing } } = s' :=
  Option.ite_some_none_eq_some

theorem step?_snapshot : step? s (.snapshot p) = some s' ↔
    (s.writer = some p ∧ (s.pl p).phase = .syncing) ∧
      { s with pl := setP s.pl p { phase := .snapped, snap := s.store } } = s' :=
  Option.ite_some_none_eq_some

theorem step?_activate : step? s (.activate p) = some s' ↔
    (s.writer = some p ∧ (s.pl p).phase = .snapped) ∧
      { s with pl := setP s.pl p { phase := .active, snap := (s.pl p).snap, got := [] } } = s' :=
  Option.ite_some_none_eq_some

theorem step?_syncEnd : step? s (.syncEnd p) = some s' ↔
    (s.writer = some p ∧ (s.pl p).phase = .active) ∧ { s with writer := none } = s' :=
  Option.ite_some_none_eq_some

theorem step?_abort : step? s (.abort p) = some s' ↔
    (s.writer = some p ∧ ((s.pl p).phase = .syncing ∨ (s.pl p).phase = .snapped)) ∧
      { s with writer := none, pl := setP s.pl p {} } = s' :=
  Option.ite_some_none_eq_some

theorem step?_drop : step? s (.drop p) = some s' ↔
    (s.writer ≠ some p ∧ (s.pl p).phase = .active) ∧ { s with pl := setP s.pl p {} } = s' :=
  Option.ite_some_none_eq_some

theorem run_eq (s : State) (h : List Ev) : run s h = h.foldlM step? s :=
  Run.eq_foldlM (fun _ => rfl) (fun s e _ => by rw [run]; cases step? s e <;> rfl) s h

/-- What holds in every reachable state of the sync-lock model. -/
structure Good (s : State) : Prop where
  /-- RW-lock exclusion: a writer excludes every reader -/
  excl : ∀ p, s.writer = some p → s.holding = []
  /-- a block is held at most once (so releasing it removes it) -/
  holdNodup : s.holding.Nodup
  /-- a half-done creation belongs to a block that is still held -/
  halfHeld : ∀ x ∈ s.half, x.1 ∈ s.holding
  /-- a container is recorded iff its request was relayed, unless its creation is half done -/
  settled : ∀ c, (c ∈ s.store ↔ c ∈ s.sent) ∨ ∃ b, (b, c) ∈ s.half
  /-- a half-done creation has exactly one of its halves done … -/
  halfXor : ∀ x ∈ s.half, (x.2 ∈ s.store ∧ x.2 ∉ s.sent) ∨ (x.2 ∉ s.store ∧ x.2 ∈ s.sent)
  /-- … and is listed once -/
  halfNodup : (s.half.map (·.2)).Nodup
  storeNodup : s.store.Nodup
  sentNodup : s.sent.Nodup
  /-- only the writer is being synchronised -/
  inSection : ∀ p, (s.pl p).phase = .syncing ∨ (s.pl p).phase = .snapped → s.writer = some p
  /-- the writer is on its way through the section (it can always take its next step) -/
  writerBusy : ∀ p, s.writer = some p → (s.pl p).phase ≠ .idle
  /-- between snapshot and activation the snapshot IS the store -/
  snapped : ∀ p, (s.pl p).phase = .snapped → (s.pl p).snap = s.store
  /-- an active plugin received exactly the relayed creations that were not in its snapshot -/
  gotIff : ∀ p, (s.pl p).phase = .active →
    ∀ c, c ∈ (s.pl p).got ↔ (c ∈ s.sent ∧ c ∉ (s.pl p).snap)
  snapSent : ∀ p, (s.pl p).phase = .active → ∀ c ∈ (s.pl p).snap, c ∈ s.sent
  snapStore : ∀ p, (s.pl p).phase = .active → ∀ c ∈ (s.pl p).snap, c ∈ s.store
  gotNodup : ∀ p, (s.pl p).phase = .active → (s.pl p).got.Nodup
  snapNodup : ∀ p, (s.pl p).phase = .active → (s.pl p).snap.Nodup

theorem good_init : Good init := by
  constructor <;> simp [init]

namespace Good

/-- with no block held nothing is half done, so store and relayed set coincide -/
theorem quiescent (g : Good s) (h : s.holding = []) (c : Cid) :
    c ∈ s.store ↔ c ∈ s.sent :=
  (g.settled c).resolve_right fun ⟨_, hb⟩ => List.ne_nil_of_mem (g.halfHeld _ hb) h

theorem blocksHold (g : Good s) (hb : b ∈ s.holding) :
    s.writer = none ∧ ∀ p, (s.pl p).phase ≠ .syncing ∧ (s.pl p).phase ≠ .snapped := by
  have hw : s.writer = none :=
    Option.eq_none_iff_forall_ne_some.2 fun q hq => List.ne_nil_of_mem hb (g.excl q hq)
  exact ⟨hw, fun p => ⟨fun h => (nomatch hw.symm.trans (g.inSection p (.inl h))),
    fun h => (nomatch hw.symm.trans (g.inSection p (.inr h)))⟩⟩

end Good

structure LockOk (w : Option Pid) (holding : List Bid) (pl : Pid → PState) : Prop where
  excl : ∀ p, w = some p → holding = []
  nodup : holding.Nodup
  inSection : ∀ p, (pl p).phase = .syncing ∨ (pl p).phase = .snapped → w = some p
  busy : ∀ p, w = some p → (pl p).phase ≠ .idle

/-- the clauses about creations; they treat the two halves alike, so `A`, `B` stand for the
    store and the relayed set in either order -/
structure HalfOk (holding : List Bid) (half : List (Bid × Cid)) (A B : List Cid) : Prop where
  held : ∀ x ∈ half, x.1 ∈ holding
  settled : ∀ c, (c ∈ A ↔ c ∈ B) ∨ ∃ b, (b, c) ∈ half
  xor : ∀ x ∈ half, (x.2 ∈ A ∧ x.2 ∉ B) ∨ (x.2 ∉ A ∧ x.2 ∈ B)
  nodup : (half.map (·.2)).Nodup
  nodupA : A.Nodup
  nodupB : B.Nodup

structure PlOk (store sent : List Cid) (x : PState) : Prop where
  snapped : x.phase = .snapped → x.snap = store
  gotIff : x.phase = .active → ∀ c, c ∈ x.got ↔ (c ∈ sent ∧ c ∉ x.snap)
  snapSent : x.phase = .active → ∀ c ∈ x.snap, c ∈ sent
  snapStore : x.phase = .active → ∀ c ∈ x.snap, c ∈ store
  gotNodup : x.phase = .active → x.got.Nodup
  snapNodup : x.phase = .active → x.snap.Nodup

theorem good_iff : Good s ↔ LockOk s.writer s.holding s.pl ∧
    HalfOk s.holding s.half s.store s.sent ∧ ∀ p, PlOk s.store s.sent (s.pl p) where
  mp g := ⟨⟨g.excl, g.holdNodup, g.inSection, g.writerBusy⟩,
    ⟨g.halfHeld, g.settled, g.halfXor, g.halfNodup, g.storeNodup, g.sentNodup⟩,
    fun p => ⟨g.snapped p, g.gotIff p, g.snapSent p, g.snapStore p, g.gotNodup p, g.snapNodup p⟩⟩
  mpr := fun ⟨l, h, x⟩ => ⟨l.excl, l.nodup, h.held, h.settled, h.xor, h.nodup, h.nodupA, h.nodupB,
    l.inSection, l.busy, fun p => (x p).snapped, fun p => (x p).gotIff, fun p => (x p).snapSent,
    fun p => (x p).snapStore, fun p => (x p).gotNodup, fun p => (x p).snapNodup⟩

namespace LockOk
variable {w w' : Option Pid} {holding : List Bid} {pl : Pid → PState} {x : PState}

/-- `p` moves on to `x` and the section passes to `w'`: the lock clauses survive if they hold
    of `p` itself and `w'` is the old writer as far as the other plugins are concerned -/
theorem setP (g : LockOk w holding pl)
    (hw : ∀ q, q ≠ p → (w' = some q ↔ w = some q)) (hex : ∀ q, w' = some q → holding = [])
    (hin : x.phase = .syncing ∨ x.phase = .snapped → w' = some p)
    (hbusy : w' = some p → x.phase ≠ .idle) : LockOk w' holding (setP pl p x) where
  excl := hex
  nodup := g.nodup
  inSection := forall_setP (P := fun q y => y.phase = .syncing ∨ y.phase = .snapped → w' = some q)
    hin fun q hq => by rw [hw q hq]; exact g.inSection q
  busy := forall_setP (P := fun q y => w' = some q → y.phase ≠ .idle)
    hbusy fun q hq => by rw [hw q hq]; exact g.busy q

end LockOk

namespace HalfOk
variable {holding : List Bid} {half : List (Bid × Cid)} {A B : List Cid}

theorem symm (h : HalfOk holding half A B) : HalfOk holding half B A :=
  ⟨h.held, fun c => (h.settled c).imp_left Iff.symm,
    fun x hx => (h.xor x hx).symm.imp And.symm And.symm, h.nodup, h.nodupB, h.nodupA⟩

/-- One half of the creation of `c` under block `b` is done on the `A` side: it opens the
    creation if the `B` half is still missing, and completes it otherwise. -/
theorem add (h : HalfOk holding half A B) (hb : b ∈ holding) (hA : c ∉ A)
    (hm : c ∈ B → (b, c) ∈ half) :
    HalfOk holding (if c ∈ B then half.erase (b, c) else (b, c) :: half) (c :: A) B := by
  have settled : ∀ {half' : List (Bid × Cid)} {c'}, c' ≠ c →
      (∀ b', (b', c') ∈ half → (b', c') ∈ half') →
      (c' ∈ c :: A ↔ c' ∈ B) ∨ ∃ b', (b', c') ∈ half' := by
    intro _ c' hc hsub
    simp only [List.mem_cons, hc, false_or]
    exact (h.settled c').imp_right fun ⟨b', hb'⟩ => ⟨b', hsub b' hb'⟩
  split
  · next hB =>
    refine ⟨fun x hx => h.held x (List.mem_of_mem_erase hx), fun c' => ?_, fun x hx => ?_,
      h.nodup.sublist (List.Sublist.map _ List.erase_sublist), List.nodup_cons.2 ⟨hA, h.nodupA⟩,
      h.nodupB⟩
    · by_cases hc : c' = c
      · exact Or.inl (by simp [hc, hB])
      · exact settled hc fun b' hb' =>
          (List.mem_erase_of_ne fun he => hc (Prod.mk.inj he).2).2 hb'
    · have hne : x.2 ≠ c := ne_of_mem_erase_of_nodup_map h.nodup (hm hB) hx
      simp only [List.mem_cons, hne, false_or]
      exact h.xor x (List.mem_of_mem_erase hx)
  · next hB =>
    have fresh : ∀ x ∈ half, x.2 ≠ c := by
      intro x hx hxc
      rcases h.xor x hx with ⟨h1, _⟩ | ⟨_, h2⟩
      · exact hA (hxc ▸ h1)
      · exact hB (hxc ▸ h2)
    refine ⟨fun x hx => ?_, fun c' => ?_, fun x hx => ?_, ?_, List.nodup_cons.2 ⟨hA, h.nodupA⟩,
      h.nodupB⟩
    · rcases List.mem_cons.1 hx with rfl | hx
      · exact hb
      · exact h.held x hx
    · by_cases hc : c' = c
      · exact Or.inr ⟨b, hc ▸ List.mem_cons_self⟩
      · exact settled hc fun _ hb' => List.mem_cons_of_mem _ hb'
    · rcases List.mem_cons.1 hx with rfl | hx
      · exact Or.inl ⟨List.mem_cons_self, hB⟩
      · simp only [List.mem_cons, fresh x hx, false_or]
        exact h.xor x hx
    · rw [List.map_cons, List.nodup_cons]
      refine ⟨fun hc => ?_, h.nodup⟩
      obtain ⟨x, hx, hxc⟩ := List.mem_map.1 hc
      exact fresh x hx hxc

end HalfOk

namespace PlOk
variable {store sent : List Cid} {x : PState}

theorem of_not (h1 : x.phase = .snapped → x.snap = store) (h2 : x.phase ≠ .active) :
    PlOk store sent x :=
  ⟨h1, (absurd · h2), (absurd · h2), (absurd · h2), (absurd · h2), (absurd · h2)⟩

/-- a relayed creation reaches exactly the active plugins; it is new to them, since what they
    have in their snapshots was relayed before -/
theorem relay {pl : Pid → PState} {q : Pid} (h : PlOk store sent (pl q)) (hs : c ∉ sent) :
    PlOk store (c :: sent) (deliver pl c q) := by
  refine ⟨fun hp => ?_, fun hp c' => ?_, fun hp c' hc' => ?_, fun hp => ?_, fun hp => ?_,
    fun hp => ?_⟩ <;> rw [deliver_phase] at hp
  · rw [deliver_snap]; exact h.snapped hp
  · rw [deliver_snap, deliver_got_active _ _ _ hp, List.mem_cons, List.mem_cons, h.gotIff hp]
    have : c' = c → c' ∉ (pl q).snap := fun hc hsn => hs (hc ▸ h.snapSent hp c' hsn)
    rw [or_and_right, and_iff_left_of_imp this]
  · rw [deliver_snap] at hc'; exact List.mem_cons_of_mem _ (h.snapSent hp c' hc')
  · rw [deliver_snap]; exact h.snapStore hp
  · rw [deliver_got_active _ _ _ hp]
    exact List.nodup_cons.2 ⟨fun hg => hs ((h.gotIff hp c).1 hg).1, h.gotNodup hp⟩
  · rw [deliver_snap]; exact h.snapNodup hp

/-- recording a container concerns no plugin, as nobody is between snapshot and activation
    while a block is held -/
theorem record (h : PlOk store sent x) (hn : x.phase ≠ .snapped) : PlOk (c :: store) sent x :=
  { h with
    snapped := (absurd · hn)
    snapStore := fun hp c' hc' => List.mem_cons_of_mem _ (h.snapStore hp c' hc') }

/-- at activation the snapshot is the store, which is the relayed set as no block is held -/
theorem activate (hq : ∀ c, c ∈ store ↔ c ∈ sent) (hn : store.Nodup) :
    PlOk store sent { phase := .active, snap := store, got := [] } :=
  ⟨nofun, fun _ c => by simp [hq], fun _ c hc => (hq c).1 hc, fun _ _ hc => hc,
    fun _ => List.nodup_nil, fun _ => hn⟩

end PlOk

theorem good_step {e : Ev} (g : Good s) (h : step? s e = some s') : Good s' := by
  obtain ⟨gl, gh, gp⟩ := good_iff.1 g
  have idle : ∀ {store sent}, PlOk store sent {} := .of_not nofun nofun
  have setPl : ∀ {p x}, PlOk s.store s.sent x → ∀ q, PlOk s.store s.sent (setP s.pl p x q) :=
    fun hx => forall_setP (P := fun _ => PlOk _ _) hx fun q _ => gp q
  cases e with
  | block b =>
    obtain ⟨⟨hw, hb⟩, rfl⟩ := step?_block.1 h
    exact good_iff.2 ⟨⟨fun p hp => (nomatch hw.symm.trans hp), List.nodup_cons.2 ⟨hb, gl.nodup⟩,
      gl.inSection, gl.busy⟩, { gh with held := fun x hx => List.mem_cons_of_mem _ (gh.held x hx) },
      gp⟩
  | unblock b =>
    obtain ⟨hc, rfl⟩ := step?_unblock.1 h
    refine good_iff.2 ⟨⟨fun p hp => (by rw [gl.excl p hp]; rfl), gl.nodup.sublist List.erase_sublist,
      gl.inSection, gl.busy⟩, { gh with held := fun x hx => ?_ }, gp⟩
    have hxb : x.1 ≠ b := fun hxb => hc (hxb ▸ gh.held x hx) x hx hxb
    exact (List.mem_erase_of_ne hxb).2 (gh.held x hx)
  | relay b c =>
    obtain ⟨⟨hb, hs⟩, hm, rfl⟩ := step?_relay.1 h
    exact good_iff.2 ⟨⟨gl.excl, gl.nodup, by simpa only [deliver_phase] using gl.inSection,
      by simpa only [deliver_phase] using gl.busy⟩, (gh.symm.add hb hs hm).symm,
      fun q => (gp q).relay hs⟩
  | record b c =>
    obtain ⟨⟨hb, hst⟩, hm, rfl⟩ := step?_record.1 h
    exact good_iff.2 ⟨gl, gh.add hb hst hm, fun q => (gp q).record ((g.blocksHold hb).2 q).2⟩
  | syncBegin p =>
    obtain ⟨⟨hw, hh, hp⟩, rfl⟩ := step?_syncBegin.1 h
    exact good_iff.2 ⟨gl.setP (fun q hq => by simp [hw, Ne.symm hq]) (fun _ _ => hh) (fun _ => rfl) nofun,
      gh, setPl (.of_not nofun nofun)⟩
  | snapshot p =>
    obtain ⟨⟨hw, hp⟩, rfl⟩ := step?_snapshot.1 h
    exact good_iff.2 ⟨gl.setP (fun _ _ => .rfl) gl.excl (fun _ => hw) nofun,
      gh, setPl (.of_not (fun _ => rfl) nofun)⟩
  | activate p =>
    obtain ⟨⟨hw, hp⟩, rfl⟩ := step?_activate.1 h
    have hh := gl.excl p hw
    exact good_iff.2 ⟨gl.setP (fun _ _ => .rfl) gl.excl (fun _ => hw) nofun,
      gh, setPl (by rw [(gp p).snapped hp]; exact .activate (g.quiescent hh) gh.nodupA)⟩
  | syncEnd p =>
    obtain ⟨⟨hw, hp⟩, rfl⟩ := step?_syncEnd.1 h
    refine good_iff.2 ⟨⟨nofun, gl.nodup, fun q hq => ?_, nofun⟩, gh, gp⟩
    have hqp : q = p := Option.some.inj ((gl.inSection q hq).symm.trans hw)
    rw [hqp, hp] at hq
    cases hq <;> contradiction
  | abort p =>
    obtain ⟨⟨hw, hp⟩, rfl⟩ := step?_abort.1 h
    exact good_iff.2 ⟨gl.setP (fun q hq => by simp [hw, Ne.symm hq]) nofun (by simp) nofun,
      gh, setPl idle⟩
  | drop p =>
    obtain ⟨⟨hw, hp⟩, rfl⟩ := step?_drop.1 h
    exact good_iff.2 ⟨gl.setP (fun _ _ => .rfl) gl.excl (by simp) (fun h => absurd h hw),
      gh, setPl idle⟩

/-- While a block is held and nobody is in the exclusive section, a step leaves every plugin
    where it is, with the snapshot it has, or (`drop`) makes it idle. -/
theorem step?_while_held {e : Ev} (hw : s.writer = none)
    (hb : b ∈ s.holding) (he : step? s e = some s') (p : Pid) :
    ((s'.pl p).phase = (s.pl p).phase ∧ (s'.pl p).snap = (s.pl p).snap) ∨
      (s'.pl p).phase = .idle := by
  have inSection : ∀ {q}, s.writer ≠ some q := fun hq => nomatch hw.symm.trans hq
  cases e with
  | block _ => obtain ⟨-, rfl⟩ := step?_block.1 he; exact .inl ⟨rfl, rfl⟩
  | record _ _ => obtain ⟨-, -, rfl⟩ := step?_record.1 he; exact .inl ⟨rfl, rfl⟩
  | unblock _ => obtain ⟨-, rfl⟩ := step?_unblock.1 he; exact .inl ⟨rfl, rfl⟩
  | relay _ c =>
    obtain ⟨-, -, rfl⟩ := step?_relay.1 he
    exact .inl ⟨deliver_phase _ c p, deliver_snap _ c p⟩
  | syncBegin _ => obtain ⟨⟨-, hh, -⟩, -⟩ := step?_syncBegin.1 he; rw [hh] at hb; cases hb
  | snapshot _ => exact absurd (step?_snapshot.1 he).1.1 inSection
  | activate _ => exact absurd (step?_activate.1 he).1.1 inSection
  | syncEnd _ => exact absurd (step?_syncEnd.1 he).1.1 inSection
  | abort _ => exact absurd (step?_abort.1 he).1.1 inSection
  | drop q =>
    obtain ⟨-, rfl⟩ := step?_drop.1 he
    exact forall_setP (.inr rfl) (fun _ _ => .inl ⟨rfl, rfl⟩) p
      (P := fun q y => (y.phase = (s.pl q).phase ∧ y.snap = (s.pl q).snap) ∨ y.phase = .idle)

theorem good_run_from {h : List Ev} (g : Good s) (hr : run s h = some s') :
    Good s' :=
  Run.induct run_eq good_step g hr

theorem good_run {h : List Ev} (hr : run init h = some s) : Good s :=
  good_run_from good_init hr

end Nri.Locks
