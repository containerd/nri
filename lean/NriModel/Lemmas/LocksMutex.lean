/-
The adaptation-mutex model (`Nri.Mutex`) as the C19 theorems use it: `step?` as a relation
(`Step`, `step_of`), so that every fact about a step is a `cases` naming the event's guards; the
inductive invariant `GoodM` tying the ghost logs to the phase of each call; the mutex protocol
(`step?_owned`, `interval_exclusive`); and that a call keeps its plugin and update list.
-/
import NriModel.Locks
import NriModel.Lemmas.Run

namespace Nri.Mutex
variable {α ε : Type}

@[simp] theorem upd_same {β : Type} (f : Uid → β) (u : Uid) (x : β) : upd f u x u = x := by
  simp [upd]

theorem upd_other {β : Type} (f : Uid → β) {u v : Uid} (x : β) (h : v ≠ u) : upd f u x v = f v := by
  simp [upd, h]

/-- what must hold of the ghost logs of call `u`, given where the call is -/
def callOk (mu : Option Owner) (u : Uid) (c : Option (Call α ε))
    (runs : List (List α × FnResult α ε)) (rets : List (List α × Option (StubErr ε))) : Prop :=
  match c with
  | none => runs = [] ∧ rets = []
  | some ⟨_, _, .called⟩ => runs = [] ∧ rets = []
  | some ⟨_, _, .entered⟩ => mu = some (.upd u) ∧ runs = [] ∧ rets = []
  | some ⟨_, L, .ran r⟩ => mu = some (.upd u) ∧ runs = [(L, r)] ∧ rets = []
  | some ⟨_, L, .left r⟩ => runs = [(L, r)] ∧ rets = []
  | some ⟨_, L, .returned r⟩ => runs = [(L, r)] ∧ rets = [expected r]

section callOk
variable {mu mu' : Option Owner} {u : Uid} {c : Option (Call α ε)}
  {runs : List (List α × FnResult α ε)} {rets : List (List α × Option (StubErr ε))}

/-- a call that does not hold the mutex is indifferent to who does -/
theorem callOk_mu (h : callOk mu u c runs rets) (hne : mu ≠ some (.upd u)) :
    callOk mu' u c runs rets := by
  unfold callOk at h ⊢
  split <;> simp_all

/-- What the logs of a call can be: the callback ran at most once, and then with the list the
    call was made with; a value was returned at most once, and then by a call that has
    returned, and it is what the one invocation's result demands. -/
theorem callOk_logs (h : callOk mu u c runs rets) :
    (runs = [] ∨ ∃ p L ph r, c = some ⟨p, L, ph⟩ ∧ runs = [(L, r)]) ∧
    (rets = [] ∨ ∃ p L r, c = some ⟨p, L, .returned r⟩ ∧ runs = [(L, r)] ∧ rets = [expected r]) := by
  unfold callOk at h
  split at h
  · exact ⟨.inl h.1, .inl h.2⟩
  · exact ⟨.inl h.1, .inl h.2⟩
  · exact ⟨.inl h.2.1, .inl h.2.2⟩
  · exact ⟨.inr ⟨_, _, _, _, rfl, h.2.1⟩, .inl h.2.2⟩
  · exact ⟨.inr ⟨_, _, _, _, rfl, h.1⟩, .inl h.2⟩
  · exact ⟨.inr ⟨_, _, _, _, rfl, h.1⟩, .inr ⟨_, _, _, rfl, h.1, h.2⟩⟩

end callOk

structure GoodM (s : State α ε) : Prop where
  /-- the ghost "inside" list is exactly the mutex holder: never two owners -/
  insideMu : s.inside = s.mu.toList
  calls : ∀ u, callOk s.mu u (s.call u) (s.fnRuns u) (s.rets u)
  /-- a call ends at most once: with a result (`rets`) or because its caller went away (`lost`) -/
  ends : ∀ u, (s.lost u).length + (s.rets u).length ≤ 1

theorem goodM_init : GoodM (init : State α ε) :=
  ⟨rfl, fun _ => ⟨rfl, rfl⟩, fun _ => Nat.zero_le 1⟩

variable [DecidableEq α] [DecidableEq ε] {s s' : State α ε} {u : Uid}

/-! ### `step?` as a relation

One rule per event. The premises are the model's guards verbatim — what the `match` found in
`s.call u`, then the condition of the `if` as it is written there, conjunctions not split — so
that `step_of` can close every branch of the unfolded `step?` by `constructor <;> assumption`. -/

inductive Step (s : State α ε) : Ev α ε → State α ε → Prop
  | call {u : Uid} {p : Pid} {update : List α} : s.call u = none →
      Step s (.call u p update) { s with call := upd s.call u (some ⟨p, update, .called⟩) }
  | enter {u : Uid} {p : Pid} {update : List α} : s.call u = some ⟨p, update, .called⟩ →
      s.mu = none →
      Step s (.enter u) { s with mu := some (.upd u), inside := .upd u :: s.inside,
                                 call := upd s.call u (some ⟨p, update, .entered⟩) }
  | fn {u : Uid} {p : Pid} {arg update : List α} {res : FnResult α ε} :
      s.call u = some ⟨p, update, .entered⟩ → s.mu = some (.upd u) ∧ arg = update →
      Step s (.fn u arg res) { s with call := upd s.call u (some ⟨p, update, .ran res⟩),
                                      fnRuns := upd s.fnRuns u ((arg, res) :: s.fnRuns u) }
  | leave {u : Uid} {p : Pid} {update : List α} {r : FnResult α ε} :
      s.call u = some ⟨p, update, .ran r⟩ → s.mu = some (.upd u) →
      Step s (.leave u) { s with mu := none, inside := s.inside.erase (.upd u),
                                 call := upd s.call u (some ⟨p, update, .left r⟩) }
  | ret {u : Uid} {p : Pid} {update : List α} {r : FnResult α ε}
      {out : List α × Option (StubErr ε)} :
      s.call u = some ⟨p, update, .left r⟩ → out = expected r ∧ s.lost u = [] →
      Step s (.ret u out) { s with call := upd s.call u (some ⟨p, update, .returned r⟩),
                                   rets := upd s.rets u (out :: s.rets u) }
  | reqBegin {r : Rid} : s.mu = none ∧ r ∉ s.doneReqs →
      Step s (.reqBegin r) { s with mu := some (.req r), inside := .req r :: s.inside }
  | handler {r : Rid} {p : Pid} : s.mu = some (.req r) → Step s (.handler r p) s
  | reqEnd {r : Rid} : s.mu = some (.req r) →
      Step s (.reqEnd r)
        { s with mu := none, inside := s.inside.erase (.req r), doneReqs := r :: s.doneReqs }
  | callUnstarted {p : Pid} {update : List α} {out : List α × Option (StubErr ε)} :
      out = stubUpdate (none : Option (List α → Option (List α) × Option ε)) update →
      Step s (.callUnstarted p update out) s
  | gone {u : Uid} {e : StubErr ε} {c : Call α ε} : s.call u = some c →
      c.phase.pending = true ∧ s.lost u = [] →
      Step s (.gone u e) { s with lost := upd s.lost u [e] }

theorem step_of {e : Ev α ε} (h : step? s e = some s') : Step s e s' := by
  unfold step? at h
  repeat' split at h
  all_goals cases h
  all_goals constructor <;> assumption

theorem run_eq (s : State α ε) (h : List (Ev α ε)) : run s h = h.foldlM step? s :=
  Run.eq_foldlM (fun _ => rfl) (fun s e _ => by rw [run]; cases step? s e <;> rfl) s h

theorem goodM_step {e : Ev α ε} (g : GoodM s) (h : step? s e = some s') : GoodM s' := by
  -- an event of call `u` rewrites the entries of `u`; the other calls see at most the mutex move
  have at_call : ∀ (u : Uid) {P : Uid → Prop}, P u → (∀ v, v ≠ u → P v) → ∀ v, P v :=
    fun u _ hu hv v => if hvu : v = u then hvu ▸ hu else hv v hvu
  have calls : ∀ {u c}, s.call u = c → callOk s.mu u c (s.fnRuns u) (s.rets u) :=
    fun hc => hc ▸ g.calls _
  cases step_of h with
  | @call u _ _ hc =>
    exact ⟨g.insideMu, at_call u (by simpa [callOk] using calls hc) fun v hv => by
      simpa only [upd_other _ _ hv] using g.calls v, g.ends⟩
  | @enter u _ _ hc hmu =>
    exact ⟨by simp [g.insideMu, hmu], at_call u (by simpa [callOk] using calls hc) fun v hv => by
      simpa only [upd_other _ _ hv] using callOk_mu (g.calls v) (by simp [hmu]), g.ends⟩
  | @fn u _ _ _ _ hc hg =>
    exact ⟨g.insideMu, at_call u (by simpa [callOk, hg.2] using calls hc) fun v hv => by
      simpa only [upd_other _ _ hv] using g.calls v, g.ends⟩
  | @leave u _ _ _ hc hmu =>
    exact ⟨by simp [g.insideMu, hmu], at_call u (by simpa [callOk] using (calls hc).2) fun v hv => by
      simpa only [upd_other _ _ hv] using callOk_mu (g.calls v) (by simp [hmu, Ne.symm hv]), g.ends⟩
  | @ret u _ _ _ _ hc ho =>
    have hu := calls hc
    exact ⟨g.insideMu,
      at_call u (by simpa [callOk, ho.1] using hu) fun v hv => by
        simpa only [upd_other _ _ hv] using g.calls v,
      at_call u (by simp [ho.2, hu.2]) fun v hv => by
        simpa only [upd_other _ _ hv] using g.ends v⟩
  | reqBegin hg =>
    exact ⟨by simp [g.insideMu, hg.1], fun v => callOk_mu (g.calls v) (by simp [hg.1]), g.ends⟩
  | reqEnd hmu =>
    exact ⟨by simp [g.insideMu, hmu], fun v => callOk_mu (g.calls v) (by simp [hmu]), g.ends⟩
  | handler | callUnstarted => exact g
  | @gone u _ _ hc hp =>
    -- a call that has not returned has no value in its `rets` log
    have hr : s.rets u = [] := (callOk_logs (calls hc)).2.resolve_right
      fun ⟨_, _, _, hc', _⟩ => by cases hc'; cases hp.1
    exact ⟨g.insideMu, g.calls, at_call u (by simp [hr]) fun v hv => by
      simpa only [upd_other _ _ hv] using g.ends v⟩

theorem goodM_run {h : List (Ev α ε)} (hr : run init h = some s) : GoodM s :=
  Run.induct run_eq goodM_step goodM_init hr

/-- `e` is an event of the section of an owner other than `o` (`enter`/`fn`/`leave` of another
    update, `reqBegin`/`handler`/`reqEnd` of another request); calls and returns of plugins, which
    do not touch the protected state, are foreign to nobody -/
def foreignTo (o : Owner) : Ev α ε → Bool
  | .enter u => o != .upd u
  | .fn u _ _ => o != .upd u
  | .leave u => o != .upd u
  | .reqBegin r => o != .req r
  | .handler r _ => o != .req r
  | .reqEnd r => o != .req r
  | _ => false

def releases (o : Owner) : Ev α ε → Bool
  | .leave u => o == .upd u
  | .reqEnd r => o == .req r
  | _ => false

/-- A step taken while `o` holds the mutex is not of anybody else's section, and the mutex
    stays with `o` unless the step is `o`'s release: an event of a section finds its own owner
    in the mutex word, or nobody if it opens the section. -/
theorem step?_owned {o : Owner} {e : Ev α ε} (hmu : s.mu = some o) (h : step? s e = some s') :
    foreignTo o e = false ∧ (releases o e = false → s'.mu = some o) := by
  have own : ∀ {o'}, s.mu = some o' → o = o' := fun h' => Option.some.inj (hmu.symm.trans h')
  have free : s.mu ≠ none := fun h' => nomatch hmu.symm.trans h'
  cases step_of h with
  | call | ret | callUnstarted | gone => exact ⟨rfl, fun _ => hmu⟩
  | enter _ h' => exact absurd h' free
  | reqBegin h' => exact absurd h'.1 free
  | fn _ h' => cases own h'.1; exact ⟨by simp [foreignTo], fun _ => hmu⟩
  | handler h' => cases own h'; exact ⟨by simp [foreignTo], fun _ => hmu⟩
  | leave _ h' => cases own h'; exact ⟨by simp [foreignTo], by simp [releases]⟩
  | reqEnd h' => cases own h'; exact ⟨by simp [foreignTo], by simp [releases]⟩

/-- interval form of mutual exclusion: a history that runs from a state where `o` holds the
    mutex and does not contain `o`'s release contains no step of another owner's section -/
theorem interval_exclusive {o : Owner} (hmu : s.mu = some o)
    {m : List (Ev α ε)} (hr : run s m = some s') (hrel : ∀ e ∈ m, releases o e = false) :
    ∀ e ∈ m, foreignTo o e = false := by
  -- the mutex stays with `o` along such a history, so every event of `m` was taken under it
  have kept : ∀ {m : List (Ev α ε)} {t}, run s m = some t → (∀ e ∈ m, releases o e = false) →
      t.mu = some o :=
    fun hr hrel => Run.induct_on run_eq (fun hd hp hs => (step?_owned hp hs).2 hd) hmu hrel hr
  intro e he
  obtain ⟨m₁, m₂, rfl⟩ := List.append_of_mem he
  obtain ⟨t, h₁, h₂⟩ := (Run.append run_eq).1 hr
  obtain ⟨t', he', -⟩ := (Run.cons run_eq).1 h₂
  exact (step?_owned (kept h₁ fun x hx => hrel x (List.mem_append_left _ hx)) he').1

/-- … in particular a history in which `e` hands the mutex to `o`, from `e` on -/
theorem exclusive_after {s₀ : State α ε} {pre m : List (Ev α ε)} {e : Ev α ε} {o : Owner}
    (hopen : ∀ {s s' : State α ε}, step? s e = some s' → s'.mu = some o)
    (hr : run s₀ (pre ++ [e] ++ m) = some s) (hrel : ∀ x ∈ m, releases o x = false) :
    ∀ x ∈ m, foreignTo o x = false := by
  obtain ⟨s₂, hr₂, hm⟩ := (Run.append run_eq).1 hr
  obtain ⟨s₁, -, he⟩ := (Run.append run_eq).1 hr₂
  exact interval_exclusive (hopen ((Run.singleton run_eq).1 he)) hm hrel

/-- a call, once made, keeps its plugin and its update list through every later step (only its
    phase moves) -/
theorem call_kept_run {m : List (Ev α ε)} (h : run s m = some s') {u : Uid} {p : Pid} {L : List α}
    {ph : CallPhase α ε} (hc : s.call u = some ⟨p, L, ph⟩) : ∃ ph', s'.call u = some ⟨p, L, ph'⟩ := by
  refine Run.induct run_eq (P := fun s => ∃ ph, s.call u = some ⟨p, L, ph⟩) ?_ ⟨ph, hc⟩ h
  intro s s' e ⟨ph, hc⟩ h
  have moved : ∀ {v p' L' ph₁} ph₂, s.call v = some ⟨p', L', ph₁⟩ →
      ∃ ph', upd s.call v (some ⟨p', L', ph₂⟩) u = some ⟨p, L, ph'⟩ := by
    intro v p' L' ph₁ ph₂ hcv
    by_cases hv : u = v
    · subst hv; rw [hc] at hcv; cases hcv; exact ⟨ph₂, upd_same ..⟩
    · exact ⟨ph, (upd_other _ _ hv).trans hc⟩
  cases step_of h with
  | @call v _ _ hn =>
    have hv : u ≠ v := fun hv => nomatch (hv ▸ hc).symm.trans hn
    exact ⟨ph, (upd_other _ _ hv).trans hc⟩
  | enter hcv | fn hcv | leave hcv | ret hcv => exact moved _ hcv
  | reqBegin | handler | reqEnd | callUnstarted | gone => exact ⟨ph, hc⟩

end Nri.Mutex
