/-
Progress facts of the sync-lock model, each as an explicit continuation of the history from a
state satisfying `Good`: the exclusive section can be left, pending registrations complete once
no block is held, and what is in flight can be drained, so that both apply from every state.
-/
import NriModel.Lemmas.Locks

namespace Nri.Locks
variable {s : State} {p q : Pid}

def registered (s : State) (p : Pid) : State :=
  { s with writer := none, pl := setP s.pl p { phase := .active, snap := s.store, got := [] } }

theorem run_register (hw : s.writer = none) (hh : s.holding = []) (hp : (s.pl p).phase = .idle) :
    run s (register p) = some (registered s p) := by
  rw [register, Run.fire run_eq (step?_syncBegin.2 ⟨⟨hw, hh, hp⟩, rfl⟩),
    Run.fire run_eq (step?_snapshot.2 ⟨⟨rfl, by simp⟩, rfl⟩),
    Run.fire run_eq (step?_activate.2 ⟨⟨rfl, by simp⟩, rfl⟩),
    Run.fire run_eq (step?_syncEnd.2 ⟨⟨rfl, by simp⟩, rfl⟩)]
  simp only [run, registered, setP_setP, setP_same]

/-- what `run_finish` promises about the state reached when `q` has left the exclusive section -/
structure Freed (s s' : State) (q : Pid) : Prop where
  writer : s'.writer = none
  holding : s'.holding = s.holding
  store : s'.store = s.store
  frame : ∀ p, p ≠ q → s'.pl p = s.pl p
  active : (s'.pl q).phase = .active
  good : Good s'

/-- if `q` can leave the section after its next step, which changes `q` only, it can now -/
theorem Freed_step {e : Ev} {h : List Ev} {x : PState}
    (he : step? s e = some { s with pl := setP s.pl q x })
    (ht : ∃ s', run { s with pl := setP s.pl q x } h = some s' ∧
      Freed { s with pl := setP s.pl q x } s' q) :
    ∃ s', run s (e :: h) = some s' ∧ Freed s s' q := by
  obtain ⟨s', hr, f⟩ := ht
  refine ⟨s', by simp only [run, he]; exact hr, { f with frame := fun p hp => ?_ }⟩
  rw [f.frame p hp]; exact setP_other _ _ hp

theorem run_finish (g : Good s) (hw : s.writer = some q) :
    ∃ s', run s (finish q (s.pl q).phase) = some s' ∧ Freed s s' q := by
  have endOf : ∀ {t : State}, Good t → t.writer = some q → (t.pl q).phase = .active →
      ∃ s', run t [.syncEnd q] = some s' ∧ Freed t s' q := by
    intro t gt tw tp
    have e := step?_syncEnd.2 ⟨⟨tw, tp⟩, rfl⟩
    exact ⟨{ t with writer := none }, by simp only [run, e], rfl, rfl, rfl, fun _ _ => rfl, tp,
      good_step gt e⟩
  have actOf : ∀ {t : State}, Good t → t.writer = some q → (t.pl q).phase = .snapped →
      ∃ s', run t [.activate q, .syncEnd q] = some s' ∧ Freed t s' q := by
    intro t gt tw tp
    have e := step?_activate.2 ⟨⟨tw, tp⟩, rfl⟩
    exact Freed_step e (endOf (good_step gt e) tw (by simp))
  cases hph : (s.pl q).phase with
  | idle => exact absurd hph (g.writerBusy q hw)
  | syncing =>
    have e := step?_snapshot.2 ⟨⟨hw, hph⟩, rfl⟩
    exact Freed_step e (actOf (good_step g e) hw (by simp))
  | snapped => exact actOf g hw hph
  | active => exact endOf g hw hph

/-- the history that frees the exclusive section (if occupied) and then registers `p` -/
def completion (s : State) (p : Pid) : List Ev :=
  (match s.writer with
   | some q => finish q (s.pl q).phase
   | none => []) ++ register p

structure Completed (s s' : State) (p : Pid) : Prop where
  active : (s'.pl p).phase = .active
  snap : (s'.pl p).snap = s.store
  writer : s'.writer = none
  holding : s'.holding = []
  store : s'.store = s.store
  /-- plugins other than `p` and the former writer are untouched -/
  frame : ∀ r, r ≠ p → s.writer ≠ some r → s'.pl r = s.pl r
  /-- nobody is deactivated -/
  keeps : ∀ r, (s.pl r).phase = .active → (s'.pl r).phase = .active
  good : Good s'

/-- what `run_free` promises about the state reached: like `Freed`, without naming the occupant -/
structure Released (s s' : State) : Prop where
  writer : s'.writer = none
  holding : s'.holding = s.holding
  store : s'.store = s.store
  /-- plugins other than the former writer are untouched -/
  frame : ∀ r, s.writer ≠ some r → s'.pl r = s.pl r
  keeps : ∀ r, (s.pl r).phase = .active → (s'.pl r).phase = .active
  good : Good s'

theorem run_free (g : Good s) :
    ∃ s', run s (match s.writer with | some q => finish q (s.pl q).phase | none => []) = some s' ∧
      Released s s' := by
  cases hw : s.writer with
  | none => exact ⟨s, rfl, hw, rfl, rfl, fun _ _ => rfl, fun _ h => h, g⟩
  | some q =>
    obtain ⟨s', h, f⟩ := run_finish g hw
    refine ⟨s', h, f.writer, f.holding, f.store, fun r hr => f.frame r fun hrq => hr ?_,
      fun r hra => ?_, f.good⟩
    · rw [hw, hrq]
    · by_cases hrq : r = q
      · exact hrq ▸ f.active
      · rw [f.frame r hrq]; exact hra

theorem progress_one (g : Good s) (hh : s.holding = []) (hp : (s.pl p).phase = .idle) :
    ∃ s', run s (completion s p) = some s' ∧ Completed s s' p := by
  obtain ⟨s₁, h₁, f⟩ := run_free g
  have hp₁ : (s₁.pl p).phase = .idle := by
    rw [f.frame p fun hw => g.writerBusy p hw hp]; exact hp
  have hr := run_register f.writer (f.holding.trans hh) hp₁
  have other : ∀ r, r ≠ p → (registered s₁ p).pl r = s₁.pl r := fun r hr => setP_other _ _ hr
  exact ⟨registered s₁ p, (Run.append run_eq).2 ⟨_, h₁, hr⟩,
    { active := by simp [registered]
      snap := by simp [registered, f.store]
      writer := rfl
      holding := f.holding.trans hh
      store := f.store
      frame := fun r hr hrw => by rw [other r hr, f.frame r hrw]
      keeps := fun r hra => by
        have hrp : r ≠ p := fun h => by rw [h, hp] at hra; cases hra
        rw [other r hrp]; exact f.keeps r hra
      good := good_run_from f.good hr }⟩

theorem progress_all (g : Good s) (hh : s.holding = []) (ps : List Pid) (hnd : ps.Nodup)
    (hidle : ∀ p ∈ ps, (s.pl p).phase = .idle) :
    ∃ h' s', run s h' = some s' ∧ (∀ p ∈ ps, (s'.pl p).phase = .active) ∧
      (∀ r, (s.pl r).phase = .active → (s'.pl r).phase = .active) ∧
      s'.writer = none ∧ s'.holding = [] ∧ s'.store = s.store := by
  induction ps generalizing s with
  | nil =>
    obtain ⟨s₁, h₁, f⟩ := run_free g
    exact ⟨_, s₁, h₁, nofun, f.keeps, f.writer, f.holding.trans hh, f.store⟩
  | cons p ps ih =>
    obtain ⟨hpn, hnd'⟩ := List.nodup_cons.1 hnd
    rw [List.forall_mem_cons] at hidle
    obtain ⟨s₁, h₁, c⟩ := progress_one g hh hidle.1
    have hidle₁ : ∀ r ∈ ps, (s₁.pl r).phase = .idle := fun r hr => by
      have hri := hidle.2 r hr
      rw [c.frame r (fun h => hpn (h ▸ hr)) fun h => g.writerBusy r h hri]; exact hri
    obtain ⟨h₂, s₂, r₂, a₂, k₂, w₂, hh₂, st₂⟩ := ih c.good c.holding hnd' hidle₁
    exact ⟨completion s p ++ h₂, s₂, (Run.append run_eq).2 ⟨_, h₁, r₂⟩,
      List.forall_mem_cons.2 ⟨k₂ p c.active, a₂⟩, fun r hra => k₂ r (c.keeps r hra), w₂, hh₂,
      st₂.trans c.store⟩

structure Drained (s s' : State) : Prop where
  holding : s'.holding = s.holding
  writer : s'.writer = s.writer
  phase : ∀ p, (s'.pl p).phase = (s.pl p).phase
  good : Good s'

theorem drain_one (g : Good s) {b : Bid} {c : Cid} (hm : (b, c) ∈ s.half) :
    ∃ e s', step? s e = some s' ∧ s'.half = s.half.erase (b, c) ∧ Drained s s' := by
  have hb : b ∈ s.holding := g.halfHeld _ hm
  rcases g.halfXor _ hm with ⟨hst, hs⟩ | ⟨hst, hs⟩
  · have e := step?_relay.2 ⟨⟨hb, hs⟩, fun _ => hm, rfl⟩
    exact ⟨_, _, e, if_pos hst, rfl, rfl, deliver_phase _ _, good_step g e⟩
  · have e := step?_record.2 ⟨⟨hb, hst⟩, fun _ => hm, rfl⟩
    exact ⟨_, _, e, if_pos hs, rfl, rfl, fun _ => rfl, good_step g e⟩

theorem drain_half (g : Good s) :
    ∃ h s', run s h = some s' ∧ s'.half = [] ∧ Drained s s' := by
  generalize hn : s.half.length = n
  induction n generalizing s with
  | zero =>
    exact ⟨[], s, rfl, List.eq_nil_of_length_eq_zero hn, rfl, rfl, fun _ => rfl, g⟩
  | succ n ih =>
    obtain ⟨⟨b, c⟩, hm⟩ := List.exists_mem_of_length_pos (l := s.half) (by omega)
    obtain ⟨e, s₁, he, h₁, d₁⟩ := drain_one g hm
    have hlen : s₁.half.length = n := by
      rw [h₁, List.length_erase_of_mem hm, hn]; rfl
    obtain ⟨h, s', hr, hh, d⟩ := ih d₁.good hlen
    exact ⟨e :: h, s', by simp only [run, he]; exact hr, hh, d.holding.trans d₁.holding,
      d.writer.trans d₁.writer, fun p => (d.phase p).trans (d₁.phase p), d.good⟩

theorem drain_blocks (g : Good s) (hh : s.half = []) :
    ∃ h s', run s h = some s' ∧ s'.holding = [] ∧ s'.writer = s.writer ∧
      (∀ p, s'.pl p = s.pl p) ∧ Good s' := by
  generalize hn : s.holding.length = n
  induction n generalizing s with
  | zero => exact ⟨[], s, rfl, List.eq_nil_of_length_eq_zero hn, rfl, fun _ => rfl, g⟩
  | succ n ih =>
    obtain ⟨b, hb⟩ := List.exists_mem_of_length_pos (l := s.holding) (by omega)
    have e := (step?_unblock (b := b)).2 ⟨fun _ x hx => (nomatch hh ▸ hx), rfl⟩
    have hlen : (s.holding.erase b).length = n := by
      rw [List.length_erase_of_mem hb, hn]; rfl
    obtain ⟨h, s', hr, rest⟩ := ih (good_step g e) hh hlen
    exact ⟨.unblock b :: h, s', by simp only [run, e]; exact hr, rest⟩

/-- from ANY state satisfying the invariant: finish what is in flight, release the blocks, let
    the writer leave, register -/
theorem no_deadlock (g : Good s) (hp : (s.pl p).phase = .idle) :
    ∃ h s', run s h = some s' ∧ (s'.pl p).phase = .active ∧ s'.writer = none ∧ s'.holding = [] := by
  obtain ⟨h1, s1, r1, hh1, d1⟩ := drain_half g
  obtain ⟨h2, s2, r2, h02, _, hp2, g2⟩ := drain_blocks d1.good hh1
  have hp' : (s2.pl p).phase = .idle := by rw [hp2 p, d1.phase p]; exact hp
  obtain ⟨s3, r3, c⟩ := progress_one g2 h02 hp'
  exact ⟨h1 ++ (h2 ++ completion s2 p), s3,
    (Run.append run_eq).2 ⟨_, r1, (Run.append run_eq).2 ⟨_, r2, r3⟩⟩, c.active, c.writer, c.holding⟩

end Nri.Locks
