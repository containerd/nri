/-
Lemmas about the frame codec of `NriModel/Mux.lean` (part 1): big-endian round trip, the
write loop equals cutting at `mp`, decode ∘ encode, prefix monotonicity of `decode`, and how
`payloadsOf` / `countFor` (the frames of one connection) distribute over `++`.
-/
import NriModel.Mux

namespace Nri.Mux

/-! ### big-endian fields, one base-256 digit at a time -/

theorem be32_ofNat (n : Nat) (h : n < 4294967296) :
    be32 (UInt8.ofNat (n / 16777216)) (UInt8.ofNat (n / 65536)) (UInt8.ofNat (n / 256))
      (UInt8.ofNat n) = n := by
  have h3 : n / 16777216 % 256 = n / 16777216 := Nat.mod_eq_of_lt (Nat.div_lt_of_lt_mul h)
  simp only [be32, UInt8.toNat_ofNat', h3]
  rw [show n / 16777216 = n / 65536 / 256 from (Nat.div_div_eq_div_mul n 65536 256).symm,
    Nat.div_add_mod', show n / 65536 = n / 256 / 256 from (Nat.div_div_eq_div_mul n 256 256).symm,
    Nat.div_add_mod', Nat.div_add_mod']

theorem ofNat_digit (x : Nat) (d : UInt8) : UInt8.ofNat (x * 256 + d.toNat) = d := by
  apply UInt8.toNat_inj.mp
  rw [UInt8.toNat_ofNat', Nat.mul_add_mod_self_right]
  exact Nat.mod_eq_of_lt d.toNat_lt

theorem div_digit (x : Nat) (d : UInt8) : (x * 256 + d.toNat) / 256 = x := by
  rw [Nat.mul_comm, Nat.mul_add_div (by decide), Nat.div_eq_of_lt d.toNat_lt, Nat.add_zero]

theorem be32Encode_be32 (a b c d : UInt8) : be32Encode (be32 a b c d) = [a, b, c, d] := by
  simp only [be32Encode, be32, show 16777216 = 256 * 256 * 256 from rfl,
    show 65536 = 256 * 256 from rfl, ← Nat.div_div_eq_div_mul, div_digit, ofNat_digit]
  rw [UInt8.ofNat_toNat]

theorem chunkSpec_unfold (mp : Nat) (buf : Bytes) :
    chunkSpec mp buf =
      if buf.length ≤ mp ∨ mp = 0 then [buf] else buf.take mp :: chunkSpec mp (buf.drop mp) := by
  rw [chunkSpec, dite_eq_ite]

theorem clamp_eq_min (a b : Nat) : (if a > b then b else a) = min a b := by
  split <;> omega

theorem writeLoop_eq (mp : Nat) (hmp : 0 < mp) :
    ∀ (fuel : Nat) (data : Bytes) (size : Nat),
      data.length < fuel → min size mp = min data.length mp →
      writeLoop mp fuel data size = some (chunkSpec mp data) := by
  intro fuel
  induction fuel with
  | zero => intro data size h; cases h
  | succ fuel ih =>
    intro data size hf hs
    rw [writeLoop, chunkSpec_unfold]
    simp only [clamp_eq_min, hs, sliceTo, sliceFrom, Nat.min_le_left, if_true, List.length_drop]
    by_cases hlen : data.length ≤ mp
    · simp [Nat.min_eq_left hlen, hlen]
    · have hlt : mp < data.length := Nat.lt_of_not_le hlen
      rw [Nat.min_eq_right (Nat.le_of_lt hlt), if_neg (by omega), if_neg (by omega),
        ih (data.drop mp) _ (by rw [List.length_drop]; omega) (by rw [List.length_drop]; omega)]
      rfl

theorem chunks_eq_spec (mp : Nat) (hmp : 0 < mp) (buf : Bytes) :
    chunks mp buf = some (chunkSpec mp buf) :=
  writeLoop_eq mp hmp _ _ _ (Nat.lt_succ_self _) rfl

theorem chunkSpec_flatten (mp : Nat) (buf : Bytes) : (chunkSpec mp buf).flatten = buf := by
  fun_induction chunkSpec mp buf with
  | case1 => simp
  | case2 x _ ih => simp [ih]

theorem chunkSpec_length_le (mp : Nat) (hmp : 0 < mp) (buf : Bytes) :
    ∀ c ∈ chunkSpec mp buf, c.length ≤ mp := by
  fun_induction chunkSpec mp buf with
  | case1 x h =>  -- the buffer fits: one chunk
    intro c hc
    cases List.mem_singleton.mp hc
    omega
  | case2 x _ ih =>  -- cut at `mp`, recursion on the rest
    intro c hc
    cases List.mem_cons.mp hc with
    | inl h => subst h; exact List.length_take_le ..
    | inr h => exact ih c h

theorem chunkSpec_ne_nil (mp : Nat) (buf : Bytes) : chunkSpec mp buf ≠ [] := by
  rw [chunkSpec_unfold]; split <;> simp

/-- message boundaries are kept -/
theorem chunkSpec_small (mp : Nat) (buf : Bytes) (h : buf.length ≤ mp) :
    chunkSpec mp buf = [buf] := by
  rw [chunkSpec_unfold, if_pos (Or.inl h)]

/-! ### decode ∘ encode

The branches of `decode`, as `fun_induction` / `fun_cases` number them: `case1` the stream starts
with a header and at least the payload it announces (a frame; recursion on what follows it),
`case2` a header but fewer bytes than announced, `case3` fewer than eight bytes. -/

theorem decode_short (s : Bytes) (h : s.length < 8) : decode s = ([], s) := by
  apply decode.eq_2
  intro a b c d e f g h' rest hs
  subst hs
  simp only [List.length_cons] at h
  omega

theorem decode_nil : decode [] = ([], []) := decode_short [] (by decide)

theorem decode_cons (a b c d e f g h : UInt8) (rest : Bytes) (hlen : be32 e f g h ≤ rest.length) :
    decode (a :: b :: c :: d :: e :: f :: g :: h :: rest) =
      (⟨be32 a b c d, rest.take (be32 e f g h)⟩ :: (decode (rest.drop (be32 e f g h))).1,
        (decode (rest.drop (be32 e f g h))).2) := by
  rw [decode, if_pos (by rw [List.length_take]; exact Nat.min_eq_left hlen)]

theorem decode_cons_short (a b c d e f g h : UInt8) (rest : Bytes)
    (hlen : rest.length < be32 e f g h) :
    decode (a :: b :: c :: d :: e :: f :: g :: h :: rest) =
      ([], a :: b :: c :: d :: e :: f :: g :: h :: rest) := by
  rw [decode, if_neg (by rw [List.length_take]; omega)]

theorem decode_frame (f : Frame) (hid : f.id < 4294967296) (hlen : f.payload.length < 4294967296)
    (s : Bytes) : decode (encodeFrame f ++ s) = (f :: (decode s).1, (decode s).2) := by
  simp only [encodeFrame, be32Encode, List.cons_append, List.nil_append]
  rw [decode_cons _ _ _ _ _ _ _ _ _ (by rw [be32_ofNat _ hlen, List.length_append]; omega),
    be32_ofNat _ hid, be32_ofNat _ hlen, List.take_left' rfl, List.drop_left' rfl]

theorem decode_frames (fs : List Frame) (h : ∀ f ∈ fs, f.id < 4294967296 ∧ f.payload.length < 4294967296)
    (s : Bytes) : decode (encodeFrames fs ++ s) = (fs ++ (decode s).1, (decode s).2) := by
  induction fs with
  | nil => rfl
  | cons f fs ih =>
    obtain ⟨hf, hfs⟩ := List.forall_mem_cons.mp h
    simp only [encodeFrames, List.flatMap_cons, List.append_assoc] at ih ⊢
    rw [decode_frame f hf.1 hf.2, ih hfs]
    rfl

theorem decode_append_prefix (a t : Bytes) : (decode a).1 <+: (decode (a ++ t)).1 := by
  fun_induction decode a with
  | case1 a b c d e f g h rest cnt p hp _ ih =>
    have hle : cnt ≤ rest.length := hp ▸ List.length_take_le' ..
    rw [List.cons_append, List.cons_append, List.cons_append, List.cons_append, List.cons_append,
      List.cons_append, List.cons_append, List.cons_append,
      decode_cons _ _ _ _ _ _ _ _ _ (by rw [List.length_append]; exact Nat.le_add_right_of_le hle),
      List.take_append_of_le_length hle, List.drop_append_of_le_length hle]
    exact (List.prefix_cons_inj _).mpr ih
  | case2 => exact List.nil_prefix
  | case3 => exact List.nil_prefix

theorem decode_prefix_mono {a b : Bytes} (h : a <+: b) : (decode a).1 <+: (decode b).1 := by
  obtain ⟨t, rfl⟩ := h
  exact decode_append_prefix a t

theorem decode_sound (s : Bytes) : encodeFrames (decode s).1 ++ (decode s).2 = s := by
  fun_induction decode s with
  | case1 a b c d e f g h rest cnt p hp _ ih =>
    simp only [encodeFrames, List.flatMap_cons, List.append_assoc] at ih ⊢
    rw [ih]
    simp only [encodeFrame, hp]
    simp only [cnt, p, be32Encode_be32, List.cons_append, List.nil_append, List.take_append_drop]
  | case2 => rfl
  | case3 => rfl

theorem payloadsOf_append (id : Nat) (a b : List Frame) :
    payloadsOf id (a ++ b) = payloadsOf id a ++ payloadsOf id b := by
  simp [payloadsOf]

theorem payloadsOf_single (id : Nat) (f : Frame) :
    payloadsOf id [f] = if f.id = id then [f.payload] else [] := by
  by_cases h : f.id = id <;> simp [payloadsOf, h]

theorem length_payloadsOf (id : Nat) (fs : List Frame) :
    (payloadsOf id fs).length = countFor id fs := by
  simp [payloadsOf, countFor]

theorem countFor_append (id : Nat) (a b : List Frame) :
    countFor id (a ++ b) = countFor id a + countFor id b := by
  simp [countFor]

end Nri.Mux
