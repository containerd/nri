/-
The one-end transition system of `NriModel/Mux.lean` (part 2): `step` as a relation (`Step`, the
one place where `step` is unfolded) and the invariant `Inv`, kept by every step under the buffer
guard.
-/
import NriModel.Lemmas.MuxCodec
import NriModel.Lemmas.AList

namespace Nri.Mux

def Conn.close (c : Conn) : Conn := { c with closed := true }

theorem closeAt_get (objs : List Conn) (x h : Nat) :
    (closeAt objs x)[h]? = if x = h then objs[h]?.map Conn.close else objs[h]? := by
  unfold closeAt
  split
  · rename_i c hc
    rw [List.getElem?_set']
    split
    · subst x; rw [hc]; rfl
    · rfl
  · rename_i hc
    split
    · subst x; rw [hc]; rfl
    · rfl

theorem closeHandles_get (objs : List Conn) (hs : List Nat) (h : Nat) :
    (closeHandles objs hs)[h]? = if h ∈ hs then objs[h]?.map Conn.close else objs[h]? := by
  induction hs generalizing objs with
  | nil => simp [closeHandles]
  | cons x hs ih =>
    simp only [closeHandles, ih, closeAt_get, List.mem_cons]
    by_cases hx : x = h
    · subst hx
      by_cases hm : x ∈ hs
      · simp [hm]; cases objs[x]? <;> simp [Conn.close]
      · simp [hm]
    · have hx' : ¬ h = x := fun e => hx e.symm
      simp [hx, hx']

theorem closeHandles_length (objs : List Conn) (hs : List Nat) :
    (closeHandles objs hs).length = objs.length := by
  induction hs generalizing objs with
  | nil => rfl
  | cons x hs ih =>
    rw [closeHandles, ih, closeAt]
    split
    · exact List.length_set
    · rfl

theorem doClose_length (s : MuxSt) : (doClose s).objs.length = s.objs.length := by
  rw [doClose]
  split
  · rfl
  · exact closeHandles_length _ _

@[simp] theorem setError_eq (s : MuxSt) (e : Err) :
    setError s e = { s with err := some (s.err.getD e) } := by
  unfold setError
  split
  · rename_i v hv
    rw [hv]; cases s; cases hv; rfl
  · rename_i hn
    rw [hn]; rfl

theorem setError_cmap (s : MuxSt) (e : Err) : (setError s e).cmap = s.cmap := by
  rw [setError_eq]

@[simp] theorem doClose_err (s : MuxSt) : (doClose s).err = s.err := by
  unfold doClose; split <;> rfl
@[simp] theorem doClose_seen (s : MuxSt) : (doClose s).seen = s.seen := by
  unfold doClose; split <;> rfl
@[simp] theorem doClose_cfg (s : MuxSt) : (doClose s).cfg = s.cfg := by
  unfold doClose; split <;> rfl
@[simp] theorem doClose_cmap (s : MuxSt) : (doClose s).cmap = s.cmap := by
  unfold doClose; split <;> rfl
@[simp] theorem doClose_closed (s : MuxSt) : (doClose s).closed = true := by
  unfold doClose; split <;> simp_all
@[simp] theorem doClose_readerDone (s : MuxSt) : (doClose s).readerDone = s.readerDone := by
  unfold doClose; split <;> rfl

theorem doClose_get (s : MuxSt) (h : Nat) :
    (doClose s).objs[h]? =
      if s.closed = false ∧ h ∈ s.cmap.map (·.2) then s.objs[h]?.map Conn.close else s.objs[h]? := by
  unfold doClose
  cases s.closed
  · simp only [Bool.false_eq_true, if_false, closeHandles_get, true_and]
  · simp

/-- `step` as a relation: one rule for each way an event succeeds -/
inductive Step (s : MuxSt) : Ev → MuxSt → Prop
  | openReserved : Step s .openReserved s
  | openNew {id h : Nat} : id ≠ 0 ∧ AList.lookup s.cmap id = none ∧ h = s.objs.length →
      Step s (.openNew id h)
        { s with objs := s.objs ++ [{ id := id, base := countFor id s.seen,
                                      closed := s.cfg.lateClosed && s.closed }],
                 cmap := AList.insert s.cmap id h }
  | openOld {id h : Nat} : id ≠ 0 ∧ AList.lookup s.cmap id = some h → Step s (.openOld id h) s
  | drop {f : Frame} : ¬ s.readerDone = true → AList.lookup s.cmap f.id = none →
      Step s (.deliver f) { s with seen := s.seen ++ [f] }
  | queue {f : Frame} {h : Nat} {c : Conn} : ¬ s.readerDone = true →
      AList.lookup s.cmap f.id = some h → s.objs[h]? = some c → c.queue.length < s.cfg.qlen →
      Step s (.deliver f)
        { s with objs := s.objs.set h { c with queue := c.queue ++ [f.payload],
                                               got := c.got ++ [f.payload] },
                 seen := s.seen ++ [f] }
  | overflow {f : Frame} {h : Nat} {c : Conn} : ¬ s.readerDone = true →
      AList.lookup s.cmap f.id = some h → s.objs[h]? = some c → ¬ c.queue.length < s.cfg.qlen →
      Step s (.overflow f) { doClose (setError s .overflow) with readerDone := true }
  | readerFail {e : Err} : ¬ s.readerDone = true →
      Step s (.readerFail e) { doClose (setError s e) with readerDone := true }
  | readerExit : s.closed = true ∧ ¬ s.readerDone = true →
      Step s .readerExit { s with readerDone := true }
  | readErr {h blen bcap : Nat} {e : Err} {c : Conn} : s.objs[h]? = some c → blen ≤ bcap →
      c.closed = true ∧ e = s.err.getD .eof →
      Step s (.read h blen bcap (.err e)) (setError s .eof)
  | readData {h blen bcap n : Nat} {c : Conn} {p q : Bytes} {rest : List Bytes} :
      s.objs[h]? = some c → blen ≤ bcap → c.queue = q :: rest →
      q.length ≤ bcap ∧ p = q.take blen ∧ n = q.length →
      Step s (.read h blen bcap (.data p n))
        { s with objs := s.objs.set h { c with queue := rest, rcvd := c.rcvd ++ [p] } }
  | readEnomem {h blen bcap : Nat} {c : Conn} {q : Bytes} {rest : List Bytes} :
      s.objs[h]? = some c → blen ≤ bcap → c.queue = q :: rest → bcap < q.length →
      Step s (.read h blen bcap .enomem) { s with objs := s.objs.set h { c with queue := rest } }
  | writeEof {h : Nat} {p : Bytes} {c : Conn} : s.objs[h]? = some c → c.closed = true →
      Step s (.write h p .errEof) s
  | writeOk {h : Nat} {p : Bytes} {c : Conn} {fs : List Frame} : s.objs[h]? = some c →
      ¬ c.closed = true ∧ ¬ s.closed = true → framesOfWrite s.cfg.mp c.id p = some fs →
      Step s (.write h p .ok) { s with out := s.out ++ fs }
  | writeTorn {h : Nat} {p : Bytes} {pw : Bool} {c : Conn} : s.objs[h]? = some c →
      ¬ c.closed = true → pw = true →
      Step s (.write h p (.errTrunk pw)) (doClose (setError s .wfail))
  | writeFail {h : Nat} {p : Bytes} {pw : Bool} {c : Conn} : s.objs[h]? = some c →
      ¬ c.closed = true → ¬ pw = true → Step s (.write h p (.errTrunk pw)) s
  | closeOwner {h : Nat} {c : Conn} : s.objs[h]? = some c → AList.lookup s.cmap c.id = some h →
      Step s (.closeConn h)
        { s with cmap := AList.erase s.cmap c.id, objs := s.objs.set h { c with closed := true } }
  | closeStale {h : Nat} {c : Conn} : s.objs[h]? = some c → ¬ AList.lookup s.cmap c.id = some h →
      Step s (.closeConn h) { s with objs := s.objs.set h { c with closed := true } }
  | closeMux : Step s .closeMux (doClose s)

/-- the premises of `Step` are the guards of `step` verbatim, so `assumption` finds them -/
theorem Step.of_step {s s' : MuxSt} {ev : Ev} (hs : step s ev = some s') : Step s ev s' := by
  unfold step at hs
  repeat' split at hs
  all_goals cases hs
  all_goals constructor <;> assumption

theorem step_length {s s' : MuxSt} {ev : Ev} (hs : step s ev = some s')
    (hno : ∀ id h, ev ≠ .openNew id h) : s'.objs.length = s.objs.length := by
  cases Step.of_step hs with
  | openNew => exact absurd rfl (hno _ _)
  | _ => simp [doClose_length]

/-- Object `c` at handle `h`, against the frames routed so far (`seen`) and the id map. `base`
    (ghost): how many frames for `c.id` had been routed when the object was opened. -/
structure ObjInv (qlen : Nat) (seen : List Frame) (cmap : AList Nat Nat) (h : Nat) (c : Conn) :
    Prop where
  split : c.got = c.rcvd ++ c.queue
  qbound : c.queue.length ≤ qlen
  base_le : c.base ≤ countFor c.id seen
  /-- holds of unregistered objects too (they just stop receiving): gives `C11_no_gap` -/
  got_pre : c.got <+: (payloadsOf c.id seen).drop c.base
  /-- nothing is dropped while registered: gives `C10_queue` -/
  got_eq : AList.lookup cmap c.id = some h → c.got = (payloadsOf c.id seen).drop c.base
  /-- only `conn.Close` unregisters, and it closes: so `mux.Close`, which closes the registered
      objects, leaves all closed -/
  unmapped_closed : AList.lookup cmap c.id ≠ some h → c.closed = true

structure Inv (s : MuxSt) : Prop where
  obj : ∀ h c, s.objs[h]? = some c → ObjInv s.cfg.qlen s.seen s.cmap h c
  map : ∀ id h, AList.lookup s.cmap id = some h → ∃ c, s.objs[h]? = some c ∧ c.id = id

theorem Inv.init (cfg : Cfg) : Inv (MuxSt.init cfg) := by
  constructor
  · intro h c hc; simp [MuxSt.init] at hc
  · intro id h hl; simp [MuxSt.init] at hl

theorem ObjInv.close {q seen cmap h c} (hi : ObjInv q seen cmap h c) :
    ObjInv q seen cmap h c.close :=
  { hi with unmapped_closed := fun _ => rfl }

theorem Inv.setError {s : MuxSt} (e : Err) (hi : Inv s) : Inv (setError s e) := by
  rw [setError_eq]
  exact ⟨hi.obj, hi.map⟩

theorem Inv.doClose {s : MuxSt} (hi : Inv s) : Inv (doClose s) := by
  constructor
  · intro h c hc
    rw [doClose_cfg, doClose_seen, doClose_cmap]
    rw [doClose_get] at hc
    split at hc
    · obtain ⟨c0, ho, rfl⟩ := Option.map_eq_some_iff.mp hc
      exact (hi.obj h c0 ho).close
    · exact hi.obj h c hc
  · intro id h hl
    rw [doClose_cmap] at hl
    obtain ⟨c, hc, hid⟩ := hi.map id h hl
    rw [doClose_get, hc]
    split
    · exact ⟨c.close, rfl, hid⟩
    · exact ⟨c, rfl, hid⟩

theorem ObjInv.seen_other {q seen cmap h c} (f : Frame) (hi : ObjInv q seen cmap h c)
    (hne : AList.lookup cmap c.id = some h → f.id ≠ c.id) :
    ObjInv q (seen ++ [f]) cmap h c := by
  have hdrop : (payloadsOf c.id (seen ++ [f])).drop c.base =
      (payloadsOf c.id seen).drop c.base ++ payloadsOf c.id [f] := by
    rw [payloadsOf_append,
      List.drop_append_of_le_length (by rw [length_payloadsOf]; exact hi.base_le)]
  exact { hi with
    base_le := by rw [countFor_append]; exact Nat.le_add_right_of_le hi.base_le
    got_pre := hdrop ▸ hi.got_pre.trans (List.prefix_append _ _)
    got_eq := fun hl => by
      rw [hdrop, payloadsOf_single, if_neg (hne hl), List.append_nil]
      exact hi.got_eq hl }

theorem ObjInv.deliver {q seen cmap h c} (f : Frame) (hi : ObjInv q seen cmap h c)
    (hm : AList.lookup cmap c.id = some h) (hid : f.id = c.id) (hq : c.queue.length < q) :
    ObjInv q (seen ++ [f]) cmap h
      { c with queue := c.queue ++ [f.payload], got := c.got ++ [f.payload] } := by
  have hnew : c.got ++ [f.payload] = (payloadsOf c.id (seen ++ [f])).drop c.base := by
    rw [payloadsOf_append, payloadsOf_single, if_pos hid,
      List.drop_append_of_le_length (by rw [length_payloadsOf]; exact hi.base_le), ← hi.got_eq hm]
  exact {
    split := by simp [hi.split]
    qbound := by simp only [List.length_append, List.length_singleton]; exact hq
    base_le := by rw [countFor_append]; exact Nat.le_add_right_of_le hi.base_le
    got_pre := hnew ▸ List.prefix_refl _
    got_eq := fun _ => hnew
    unmapped_closed := fun hl => absurd hm hl }

theorem ObjInv.read {q seen cmap h c p rest} (hi : ObjInv q seen cmap h c)
    (hq : c.queue = p :: rest) :
    ObjInv q seen cmap h { c with queue := rest, rcvd := c.rcvd ++ [p] } := by
  exact { hi with
    split := by simp [hi.split, hq]
    qbound := by have := hi.qbound; rw [hq] at this; exact Nat.le_of_succ_le this }

/-- a change of the id map that unregisters only closed objects -/
theorem ObjInv.remap {q seen cmap cmap' h c} (hi : ObjInv q seen cmap h c)
    (h1 : AList.lookup cmap' c.id = some h → AList.lookup cmap c.id = some h)
    (h2 : AList.lookup cmap c.id = some h → AList.lookup cmap' c.id = some h ∨ c.closed = true) :
    ObjInv q seen cmap' h c := by
  exact { hi with
    got_eq := fun hl => hi.got_eq (h1 hl)
    unmapped_closed := fun hl => by
      by_cases hold : AList.lookup cmap c.id = some h
      · exact (h2 hold).resolve_left hl
      · exact hi.unmapped_closed hold }

theorem Inv.set {s s' : MuxSt} {h0 : Nat} {c0 c0' : Conn} (hi : Inv s)
    (hc0 : s.objs[h0]? = some c0) (hobjs : s'.objs = s.objs.set h0 c0') (hid : c0'.id = c0.id)
    (hmap : ∀ id h, AList.lookup s'.cmap id = some h → AList.lookup s.cmap id = some h)
    (hnew : ObjInv s'.cfg.qlen s'.seen s'.cmap h0 c0')
    (hrest : ∀ h c, h0 ≠ h → s.objs[h]? = some c → ObjInv s'.cfg.qlen s'.seen s'.cmap h c) :
    Inv s' := by
  constructor
  · intro h c hc
    rw [hobjs, List.getElem?_set'] at hc
    by_cases hh : h0 = h
    · subst hh
      rw [if_pos rfl, hc0] at hc; cases hc
      exact hnew
    · rw [if_neg hh] at hc
      exact hrest h c hh hc
  · intro id h hl
    obtain ⟨c, hc, hcid⟩ := hi.map id h (hmap id h hl)
    rw [hobjs, List.getElem?_set']
    by_cases hh : h0 = h
    · subst hh
      rw [hc0] at hc; cases hc
      exact ⟨c0', by simp [hc0], hid.trans hcid⟩
    · exact ⟨c, by simp [hh, hc], hcid⟩

theorem Inv.step {s s' : MuxSt} {ev : Ev} (hi : Inv s) (hg : ev.guard = true)
    (hs : step s ev = some s') : Inv s' := by
  cases Step.of_step hs with
  | openReserved | openOld | writeEof | writeFail => exact hi
  -- only `readerDone` / `out` change, which `Inv` does not read; but the state is another term
  | readerExit | writeOk => exact ⟨hi.obj, hi.map⟩
  | closeMux => exact hi.doClose
  | writeTorn => exact (hi.setError _).doClose
  | readErr => exact hi.setError _
  | readerFail | overflow => exact ⟨(hi.setError _).doClose.obj, (hi.setError _).doClose.map⟩
  -- excluded by the buffer guard `hg`
  | readEnomem => cases hg
  | @readData h blen bcap n c p q rest hc _ hq hcond =>
    obtain ⟨_, rfl, rfl⟩ := hcond
    rw [List.take_of_length_le (of_decide_eq_true hg)]
    exact hi.set hc rfl rfl (fun _ _ hl => hl) ((hi.obj h c hc).read hq) fun h1 c1 _ => hi.obj h1 c1
  | @drop f _ hl =>
    refine ⟨fun h c hc => (hi.obj h c hc).seen_other f fun hm hid => ?_, hi.map⟩
    rw [hid, hm] at hl; cases hl
  | @queue f h c _ hl hc hq =>
    obtain ⟨c', hc', hid⟩ := hi.map f.id h hl
    rw [hc] at hc'; cases hc'
    refine hi.set hc rfl rfl (fun _ _ hl => hl)
      ((hi.obj h c hc).deliver f (hid ▸ hl) hid.symm hq) fun h1 c1 hne hc1 => ?_
    refine (hi.obj h1 c1 hc1).seen_other f fun hm hfid => hne ?_
    rw [← hfid, hl] at hm; exact Option.some.inj hm
  | @closeStale h c hc _ =>
    exact hi.set hc rfl rfl (fun _ _ hl => hl) (hi.obj h c hc).close fun h1 c1 _ => hi.obj h1 c1
  | @closeOwner h c hc hreg =>
    refine hi.set hc rfl rfl (fun _ _ => AList.lookup_erase_some)
      ((hi.obj h c hc).close.remap AList.lookup_erase_some fun _ => Or.inr rfl)
      fun h1 c1 hne hc1 => (hi.obj h1 c1 hc1).remap AList.lookup_erase_some fun hm => Or.inl ?_
    by_cases hk : c.id = c1.id
    · rw [hk, hm] at hreg; exact absurd (Option.some.inj hreg).symm hne
    · exact (AList.lookup_erase_other _ _ _ hk).trans hm
  | @openNew id h hcond =>
    obtain ⟨_, hnone, rfl⟩ := hcond
    constructor
    · intro h c hc
      rw [List.getElem?_append] at hc
      split at hc
      · -- an object that was there: the new registration is under a handle and an id not its own
        rename_i hlt
        refine (hi.obj h c hc).remap (fun hl => ?_) fun hm => Or.inl ?_
        · by_cases hcid : id = c.id
          · subst hcid; rw [AList.lookup_insert_self] at hl
            exact absurd (Option.some.inj hl) (Nat.ne_of_gt hlt)
          · rwa [AList.lookup_insert_other _ _ _ _ hcid] at hl
        · by_cases hcid : id = c.id
          · subst hcid; rw [hnone] at hm; cases hm
          · rwa [AList.lookup_insert_other _ _ _ _ hcid]
      · -- the new object: nothing queued, `base` is the count so far, and it is registered
        rw [List.getElem?_singleton] at hc
        split at hc <;> cases hc
        have hh : h = s.objs.length := by omega
        subst hh
        exact {
          split := rfl
          qbound := Nat.zero_le _
          base_le := Nat.le_refl _
          got_pre := List.nil_prefix
          got_eq := fun _ =>
            (List.drop_of_length_le (by rw [length_payloadsOf]; exact Nat.le_refl _)).symm
          unmapped_closed := fun hl => absurd (AList.lookup_insert_self ..) hl }
    · intro id' h' hl
      by_cases hcid : id = id'
      · subst hcid; rw [AList.lookup_insert_self] at hl
        cases hl
        exact ⟨_, List.getElem?_concat_length, rfl⟩
      · rw [AList.lookup_insert_other _ _ _ _ hcid] at hl
        obtain ⟨c, hc, hcid'⟩ := hi.map id' h' hl
        exact ⟨c, by rwa [List.getElem?_append_left (List.getElem?_eq_some_iff.mp hc).1], hcid'⟩

end Nri.Mux
