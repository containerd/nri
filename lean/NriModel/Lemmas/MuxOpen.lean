/-
The atomic `Open` / `Close` of `NriModel/MuxOpen.lean`: what `lookup` finds, that every event keeps
`OInv`, and that an id once registered stays registered under the same handle.
-/
import NriModel.MuxOpen

namespace Nri.MuxOpen

theorem lookup_cons (p : Nat × Nat) (t : List (Nat × Nat)) (id : Nat) :
    lookup (p :: t) id = if p.1 = id then some p.2 else lookup t id := by
  by_cases h : p.1 = id <;> simp [lookup, h]

theorem lookup_some_mem {t : List (Nat × Nat)} {id h : Nat} (hl : lookup t id = some h) : (id, h) ∈ t := by
  obtain ⟨⟨a, b⟩, hf, rfl⟩ := Option.map_eq_some_iff.mp hl
  have hp := List.find?_some hf
  cases eq_of_beq hp
  exact List.mem_of_find?_eq_some hf

theorem lookup_none_not_mem {t : List (Nat × Nat)} {id : Nat} (hl : lookup t id = none) :
    id ∉ t.map (·.1) := by
  intro hm
  obtain ⟨p, hp, rfl⟩ := List.mem_map.mp hm
  simpa using List.find?_eq_none.mp (Option.map_eq_none_iff.mp hl) p hp

theorem OInv.init : OInv {} :=
  ⟨(by intro p hp; cases hp), (by simp), (by intro h; cases h)⟩

theorem openAtomic_inv {s : OSt} (h : OInv s) (id : Nat) : OInv (openAtomic s id).1 := by
  unfold openAtomic
  cases hl : lookup s.table id with
  | some x => exact h
  | none =>
    refine ⟨?_, ?_, ?_⟩
    · intro p hp
      simp only [List.mem_cons] at hp
      rcases hp with rfl | hp
      · simp
      · have := h.bound p hp; simp; omega
    · simp only [List.map_cons, List.nodup_cons]
      exact ⟨lookup_none_not_mem hl, h.nodup⟩
    · intro hc p hp
      simp only at hc
      simp only [hc, if_true, List.mem_cons] at hp ⊢
      rcases hp with rfl | hp
      · exact Or.inl rfl
      · exact Or.inr (h.closed hc p hp)

theorem closeMux_inv {s : OSt} (h : OInv s) : OInv (closeMux s) := by
  unfold closeMux
  refine ⟨h.bound, h.nodup, ?_⟩
  intro _ p hp
  simp only [List.mem_append, List.mem_map]
  exact Or.inl ⟨p, hp, rfl⟩

theorem ostep_inv {s : OSt} (h : OInv s) (e : Ev) : OInv (ostep s e) := by
  cases e with
  | «open» id => exact openAtomic_inv h id
  | close => exact closeMux_inv h

theorem orun_inv (evs : List Ev) {s : OSt} (h : OInv s) : OInv (orun evs s) :=
  List.foldlRecOn evs _ h fun _ hs e _ => ostep_inv hs e

/-- (this model has no per-connection close) -/
theorem ostep_lookup {s : OSt} {id h : Nat} (hl : lookup s.table id = some h) (e : Ev) :
    lookup (ostep s e).table id = some h := by
  cases e with
  | close => exact hl
  | «open» id' =>
    simp only [ostep, openAtomic]
    cases hl' : lookup s.table id' with
    | some x => exact hl
    | none =>
      rw [lookup_cons, if_neg, hl]
      intro (hid : id' = id)
      rw [hid, hl] at hl'; cases hl'

theorem orun_lookup (evs : List Ev) {s : OSt} {id h : Nat} (hl : lookup s.table id = some h) :
    lookup (orun evs s).table id = some h :=
  List.foldlRecOn (motive := fun t : OSt => lookup t.table id = some h) evs _ hl
    fun _ ht e _ => ostep_lookup ht e

theorem openAtomic_registers (s : OSt) (id : Nat) :
    lookup (openAtomic s id).1.table id = some (openAtomic s id).2 := by
  unfold openAtomic
  cases hl : lookup s.table id with
  | some x => exact hl
  | none => exact (lookup_cons ..).trans (if_pos rfl)

theorem openAtomic_of_lookup {s : OSt} {id h : Nat} (hl : lookup s.table id = some h) :
    openAtomic s id = (s, h) := by
  rw [openAtomic, hl]

end Nri.MuxOpen
