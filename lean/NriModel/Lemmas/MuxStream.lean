/-
Stream-level consequences of the codec lemmas: what a sequence of writes delivers.
-/
import NriModel.Lemmas.MuxCodec

namespace Nri.Mux

theorem encodeWrite_eq (mp : Nat) (hmp : 0 < mp) (id : Nat) (buf : Bytes) :
    encodeWrite mp id buf = some (encodeFrames ((chunkSpec mp buf).map (Frame.mk id))) := by
  simp [encodeWrite, framesOfWrite, chunks_eq_spec mp hmp]

theorem encodeFrames_append (a b : List Frame) :
    encodeFrames (a ++ b) = encodeFrames a ++ encodeFrames b := by
  simp [encodeFrames]

theorem encodeWrites_eq (mp : Nat) (hmp : 0 < mp) (ws : List (Nat × Bytes)) :
    encodeWrites mp ws = some (encodeFrames (specFrames mp ws)) := by
  induction ws with
  | nil => simp [encodeWrites, specFrames, encodeFrames]
  | cons w ws ih =>
    simp only [encodeWrites, encodeWrite_eq mp hmp, ih]
    simp [specFrames, encodeFrames_append]

theorem specFrames_bounds (mp : Nat) (hmp : 0 < mp) (hmp32 : mp < 4294967296)
    (ws : List (Nat × Bytes)) (hid : ∀ w ∈ ws, w.1 < 4294967296) :
    ∀ f ∈ specFrames mp ws, f.id < 4294967296 ∧ f.payload.length < 4294967296 := by
  intro f hf
  simp only [specFrames, List.mem_flatMap, List.mem_map] at hf
  obtain ⟨w, hw, c, hc, rfl⟩ := hf
  exact ⟨hid w hw, Nat.lt_of_le_of_lt (chunkSpec_length_le mp hmp w.2 c hc) hmp32⟩

theorem decode_encodeWrites (mp : Nat) (hmp : 0 < mp) (hmp32 : mp < 4294967296)
    (ws : List (Nat × Bytes)) (hid : ∀ w ∈ ws, w.1 < 4294967296) :
    decode (encodeFrames (specFrames mp ws)) = (specFrames mp ws, []) := by
  have := decode_frames _ (specFrames_bounds mp hmp hmp32 ws hid) []
  rwa [List.append_nil, decode_nil, List.append_nil] at this

theorem payloadsOf_map_mk (id i : Nat) (cs : List Bytes) :
    payloadsOf id (cs.map (Frame.mk i)) = if i = id then cs else [] := by
  by_cases h : i = id
  · subst h; simp [payloadsOf, List.filter_map, Function.comp_def]
  · simp [payloadsOf, List.filter_map, Function.comp_def, h]

theorem payloadsOf_specFrames (mp id : Nat) (ws : List (Nat × Bytes)) :
    payloadsOf id (specFrames mp ws) =
      (ws.filter (·.1 == id)).flatMap (fun w => chunkSpec mp w.2) := by
  induction ws with
  | nil => simp [specFrames, payloadsOf]
  | cons w ws ih =>
    have hs : specFrames mp (w :: ws) = (chunkSpec mp w.2).map (Frame.mk w.1) ++ specFrames mp ws := by
      simp [specFrames]
    rw [hs, payloadsOf_append, payloadsOf_map_mk, ih]
    by_cases h : w.1 = id <;> simp [h]

theorem bytesDelivered_specFrames (mp id : Nat) (ws : List (Nat × Bytes)) :
    bytesDelivered id (specFrames mp ws) = ((ws.filter (·.1 == id)).map (·.2)).flatten := by
  rw [bytesDelivered, payloadsOf_specFrames]
  induction ws.filter (·.1 == id) with
  | nil => simp
  | cons w ws ih => simp [List.flatMap_cons, chunkSpec_flatten, ih]

theorem payloadsOf_prefix {id : Nat} {a b : List Frame} (h : a <+: b) :
    payloadsOf id a <+: payloadsOf id b :=
  (h.filter _).map _

theorem flatten_prefix {a b : List Bytes} (h : a <+: b) : a.flatten <+: b.flatten := by
  obtain ⟨t, rfl⟩ := h
  rw [List.flatten_append]; exact List.prefix_append _ _

theorem drop_prefix_of_prefix {α : Type} {a b : List α} (n : Nat) (h : a <+: b) :
    a.drop n <+: b.drop n := by
  obtain ⟨t, rfl⟩ := h
  by_cases hn : n ≤ a.length
  · rw [List.drop_append_of_le_length hn]; exact List.prefix_append _ _
  · rw [List.drop_of_length_le (by omega)]; exact List.nil_prefix

end Nri.Mux
