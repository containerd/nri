/-
The reader of the two-ended model (`MuxSys.lean`) consumes the trunk with `decodeOne`, one
frame at a time; this is the same function as the `decode` the C10/C11 theorems are about.
-/
import NriModel.MuxSys
import NriModel.Lemmas.MuxCodec

namespace Nri.Mux

theorem decode_eq_decodeOne (s : Bytes) :
    decode s = match decodeOne s with
      | some (f, rest) => (f :: (decode rest).1, (decode rest).2)
      | none => ([], s) := by
  fun_cases decode s with  -- branches as listed in `Lemmas/MuxCodec.lean`
  | case1 a b c d e f g h rest cnt p hp =>
    simp only [decodeOne, hp, cnt, p, if_true]
    rfl
  | case2 a b c d e f g h rest cnt p hp => simp only [decodeOne, hp, cnt, p, if_false]
  | case3 s hs => rw [decodeOne.eq_2 s hs]

/-- the tap forwards a prefix of what is written to it -/
theorem Wire.push_sent_prefix (w : Wire) (bs : Bytes) : w.sent <+: (w.push bs).sent := by
  unfold Wire.push
  split
  · exact List.prefix_refl _
  · split
    · exact List.prefix_append _ _
    · split <;> exact List.prefix_append _ _

end Nri.Mux
