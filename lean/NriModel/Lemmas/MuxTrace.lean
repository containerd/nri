/-
Whole runs of one mux end: the error latch, the ghost fields as trace functions, what a run does
to a single connection object (`ObjEv`), the invariant along a run, and what `mux.Close` and
`conn.Close` leave behind.
-/
import NriModel.Lemmas.MuxLts
import NriModel.Lemmas.Run

namespace Nri.Mux

variable {s s' : MuxSt} {ev : Ev} {tr : List Ev} {rd : Prop} {h : Nat}

theorem run_eq (s : MuxSt) (tr : List Ev) : run s tr = tr.foldlM step s :=
  Run.eq_foldlM (fun _ => rfl) (fun s ev _ => by rw [run]; cases step s ev <;> rfl) s tr

theorem step_err_mono {e : Err} (hs : step s ev = some s')
    (he : s.err = some e) : s'.err = some e := by
  cases Step.of_step hs <;> simp [he]

theorem run_err_mono {e : Err} (hr : run s tr = some s') (he : s.err = some e) : s'.err = some e :=
  Run.induct run_eq (P := fun s => s.err = some e) (fun he h1 => step_err_mono h1 he) he hr

theorem readErrors_cons (ev : Ev) (tr : List Ev) :
    readErrors (ev :: tr) = readErrors [ev] ++ readErrors tr := by
  cases ev with
  | read _ _ _ r => cases r <;> rfl
  | _ => rfl

theorem step_readErrors (hs : step s ev = some s') : ∀ e ∈ readErrors [ev], s'.err = some e := by
  cases Step.of_step hs with
  | readErr _ _ hc => simp [readErrors, hc.2]
  | _ => intro e he; cases he

theorem readErrors_latched (hr : run s tr = some s') : ∀ e ∈ readErrors tr, s'.err = some e := by
  induction tr generalizing s with
  | nil => nofun
  | cons ev tr ih =>
    obtain ⟨s1, h1, hr⟩ := (Run.cons run_eq).mp hr
    intro e he
    rw [readErrors_cons, List.mem_append] at he
    exact he.elim (fun h => run_err_mono hr (step_readErrors h1 e h)) (ih hr e)

theorem step_cfg (hs : step s ev = some s') : s'.cfg = s.cfg := by
  cases Step.of_step hs <;> simp

theorem step_seen (hs : step s ev = some s') : s'.seen = s.seen ++ delivered [ev] := by
  cases Step.of_step hs <;> simp [delivered]

theorem delivered_cons (ev : Ev) (tr : List Ev) :
    delivered (ev :: tr) = delivered [ev] ++ delivered tr := by
  cases ev <;> rfl

theorem received_cons (h : Nat) (ev : Ev) (tr : List Ev) :
    received h (ev :: tr) = received h [ev] ++ received h tr := by
  cases ev with
  | read h' bl bc r =>
    cases r with
    | data p n => by_cases hh : h' = h <;> simp [received, hh]
    | _ => rfl
  | _ => rfl

/-- `[]` on a handle not created yet -/
def rcvdOf (o : Option Conn) : List Bytes := o.elim [] (·.rcvd)

def queuedOf (o : Option Conn) : Nat := o.elim 0 (·.queue.length)

/-- What the events `tr` do to the object at handle `h` (`o` before, `o'` after; `rd`: the reader
    goroutine had returned before them). -/
structure ObjEv (rd : Prop) (h : Nat) (tr : List Ev) (o o' : Option Conn) : Prop where
  stays : ∀ c, o = some c → ∃ c', o' = some c' ∧ c'.id = c.id ∧ c'.base = c.base ∧
    (c.closed = true → c'.closed = true)
  rcvd : rcvdOf o' = rcvdOf o ++ received h tr
  drain : rd → queuedOf o' + (received h tr).length ≤ queuedOf o

theorem ObjEv.same (o : Option Conn) (hr : received h tr = []) : ObjEv rd h tr o o :=
  ⟨fun c hc => ⟨c, hc, rfl, rfl, id⟩, by rw [hr, List.append_nil], fun _ => by rw [hr]; exact Nat.le_refl _⟩

theorem ObjEv.of {c c' : Conn} (hid : c'.id = c.id)
    (hb : c'.base = c.base) (hcl : c.closed = true → c'.closed = true)
    (hr : c'.rcvd = c.rcvd ++ received h tr)
    (hq : rd → c'.queue.length + (received h tr).length ≤ c.queue.length) :
    ObjEv rd h tr (some c) (some c') :=
  ⟨fun _ hc => by cases hc; exact ⟨c', rfl, hid, hb, hcl⟩, hr, hq⟩

theorem ObjEv.close (o : Option Conn)
    (hr : received h tr = []) : ObjEv rd h tr o (o.map Conn.close) := by
  cases o with
  | none => exact .same none hr
  | some c =>
    exact .of rfl rfl (fun _ => rfl) (by rw [hr, List.append_nil]; rfl) fun _ => by
      rw [hr]; exact Nat.le_refl _

theorem ObjEv.cons {o o1 o2 : Option Conn}
    (h1 : ObjEv rd h [ev] o o1) (h2 : ObjEv rd h tr o1 o2) : ObjEv rd h (ev :: tr) o o2 := by
  refine ⟨fun c hc => ?_, ?_, fun hd => ?_⟩
  · obtain ⟨c1, hc1, a1, b1, d1⟩ := h1.stays c hc
    obtain ⟨c2, hc2, a2, b2, d2⟩ := h2.stays c1 hc1
    exact ⟨c2, hc2, a2.trans a1, b2.trans b1, d2 ∘ d1⟩
  · rw [h2.rcvd, h1.rcvd, received_cons h ev tr, List.append_assoc]
  · have := h1.drain hd
    have := h2.drain hd
    rw [received_cons h ev tr, List.length_append]; omega

theorem ObjEv.set {h h0 : Nat} {objs : List Conn} {c0 c0' : Conn}
    (hc0 : objs[h0]? = some c0) (hne : h0 ≠ h → received h tr = [])
    (hev : h0 = h → ObjEv rd h tr (some c0) (some c0')) :
    ObjEv rd h tr objs[h]? (objs.set h0 c0')[h]? := by
  rw [List.getElem?_set']
  split
  · subst h0; rw [hc0]; exact hev rfl
  · exact .same _ (hne ‹_›)

theorem ObjEv.doClose (s : MuxSt)
    (hr : received h tr = []) : ObjEv rd h tr s.objs[h]? (doClose s).objs[h]? := by
  rw [doClose_get]
  split
  · exact .close _ hr
  · exact .same _ hr

theorem step_readerDone (hs : step s ev = some s')
    (hd : s.readerDone = true) : s'.readerDone = true := by
  cases Step.of_step hs <;> simp [hd]

theorem step_obj (h : Nat) (hs : step s ev = some s')
    (hrd : rd → s.readerDone = true) : ObjEv rd h [ev] s.objs[h]? s'.objs[h]? := by
  cases Step.of_step hs with
  | queue hd _ hc =>
    exact .set hc (fun _ => rfl) fun _ =>
      .of rfl rfl id (List.append_nil _).symm fun h => absurd (hrd h) hd
  | readData hc _ hq =>
    exact .set hc (fun hne => by simp [received, hne]) fun he =>
      .of rfl rfl id (by simp [received, he]) fun _ => by simp [received, he, hq]
  | readEnomem hc _ hq =>
    exact .set hc (fun _ => rfl) fun _ =>
      .of rfl rfl id (List.append_nil _).symm fun _ => by simp [received, hq]
  | closeOwner hc | closeStale hc =>
    exact .set hc (fun _ => rfl) fun _ => .close (some _) rfl
  | openNew =>
    rw [List.getElem?_append]
    split
    · exact .same _ rfl
    · rename_i hge
      rw [List.getElem?_eq_none (Nat.le_of_not_lt hge), List.getElem?_singleton]
      split
      · exact ⟨fun _ hc => (nomatch hc), rfl, fun _ => Nat.le_refl _⟩
      · exact .same _ rfl
  | closeMux => exact .doClose s rfl
  | writeTorn | readerFail | overflow => simpa using ObjEv.doClose (setError s _) rfl
  | readErr => simpa using ObjEv.same _ rfl
  | _ => exact .same _ rfl

theorem run_cfg (hr : run s tr = some s') : s'.cfg = s.cfg :=
  Run.induct run_eq (P := fun t => t.cfg = s.cfg) (fun h h1 => (step_cfg h1).trans h) rfl hr

theorem run_seen (hr : run s tr = some s') : s'.seen = s.seen ++ delivered tr := by
  induction tr generalizing s with
  | nil => cases hr; exact (List.append_nil _).symm
  | cons ev tr ih =>
    obtain ⟨s1, h1, hr⟩ := (Run.cons run_eq).mp hr
    rw [ih hr, step_seen h1, delivered_cons ev tr, List.append_assoc]

theorem run_obj (h : Nat) (hr : run s tr = some s')
    (hrd : rd → s.readerDone = true) : ObjEv rd h tr s.objs[h]? s'.objs[h]? := by
  induction tr generalizing s with
  | nil => cases hr; exact .same _ rfl
  | cons ev tr ih =>
    obtain ⟨s1, h1, hr⟩ := (Run.cons run_eq).mp hr
    exact (step_obj h h1 hrd).cons (ih hr fun hd => step_readerDone h1 (hrd hd))

theorem run_rc (h : Nat) (hr : run s tr = some s') :
    rcvdOf s'.objs[h]? = rcvdOf s.objs[h]? ++ received h tr :=
  (run_obj (rd := False) h hr nofun).rcvd

theorem run_stable {c : Conn} (hr : run s tr = some s')
    (hc : s.objs[h]? = some c) : ∃ c', s'.objs[h]? = some c' ∧ c'.id = c.id ∧ c'.base = c.base ∧
      (c.closed = true → c'.closed = true) :=
  (run_obj (rd := False) h hr nofun).stays c hc

theorem run_inv (hi : Inv s) (hg : bigBuffers tr = true) (hr : run s tr = some s') : Inv s' :=
  Run.induct_on run_eq (D := fun ev => ev.guard = true) (fun hd hi h1 => hi.step hd h1) hi
    (List.all_eq_true.mp hg) hr

/-- in a run from the initial state the ghosts `seen`, `rcvd` are `delivered tr`, `received h tr` -/
theorem run_init_obj {cfg : Cfg} {c : Conn}
    (hg : bigBuffers tr = true) (hr : run (MuxSt.init cfg) tr = some s)
    (hc : s.objs[h]? = some c) :
    ObjInv cfg.qlen (delivered tr) s.cmap h c ∧ c.rcvd = received h tr := by
  have ho := (run_inv (Inv.init cfg) hg hr).obj h c hc
  have hrc := run_rc h hr
  rw [run_cfg hr, run_seen hr] at ho
  rw [hc] at hrc
  exact ⟨ho, hrc.trans (List.nil_append _)⟩

theorem obj_of_open {cfg : Cfg} {pre post : List Ev} {id h : Nat} {s : MuxSt}
    (hr : run (MuxSt.init cfg) (pre ++ Ev.openNew id h :: post) = some s) :
    ∃ c, s.objs[h]? = some c ∧ c.id = id ∧ c.base = countFor id (delivered pre) := by
  obtain ⟨s1, h1, hr⟩ := (Run.append run_eq).mp hr
  obtain ⟨s2, h2, hr⟩ := (Run.cons run_eq).mp hr
  cases Step.of_step h2 with | openNew hc =>
  obtain ⟨_, _, rfl⟩ := hc
  obtain ⟨c, hc, hid, hbase, _⟩ := run_stable hr List.getElem?_concat_length
  exact ⟨c, hc, hid, by rw [hbase, run_seen h1]; rfl⟩

theorem doClose_all_closed (hi : Inv s) (hnc : s.closed = false) {c : Conn}
    (hc : (doClose s).objs[h]? = some c) : c.closed = true := by
  rw [doClose_get] at hc
  split at hc
  · cases ho : s.objs[h]? with
    | none => rw [ho] at hc; cases hc
    | some c0 => rw [ho] at hc; cases hc; rfl
  · rename_i hnm
    exact (hi.obj h c hc).unmapped_closed fun hl =>
      hnm ⟨hnc, List.mem_map.mpr ⟨_, AList.mem_of_lookup hl, rfl⟩⟩

theorem step_closeConn_stale {c : Conn} (hc : s.objs[h]? = some c)
    (hcl : c.closed = true) (hst : AList.lookup s.cmap c.id ≠ some h)
    (hs : step s (.closeConn h) = some s') : s' = s := by
  cases Step.of_step hs with
  | closeOwner hc' hreg => cases hc.symm.trans hc'; exact absurd hreg hst
  | closeStale hc' _ =>
    cases hc.symm.trans hc'
    have hcc : ({ c with closed := true } : Conn) = c := by cases c; cases hcl; rfl
    obtain ⟨hlt, rfl⟩ := List.getElem?_eq_some_iff.mp hc
    rw [hcc, List.set_getElem_self]

/-- with the reader gone Read hands out at most what is queued; `Inv` bounds that by `qlen` -/
theorem run_drain (hi : Inv s) (h : Nat) (hr : run s tr = some s')
    (hd : s.readerDone = true) : (received h tr).length ≤ s.cfg.qlen := by
  have hq := (run_obj (rd := True) h hr fun _ => hd).drain trivial
  have hb : queuedOf s.objs[h]? ≤ s.cfg.qlen := by
    cases ho : s.objs[h]? with
    | none => exact Nat.zero_le _
    | some c => exact (hi.obj h c ho).qbound
  exact Nat.le_trans (Nat.le_add_left ..) (Nat.le_trans hq hb)

/-- the property the repaired `Open` (`cfg.lateClosed`) establishes -/
def AllClosed (s : MuxSt) : Prop :=
  s.closed = true → ∀ (h : Nat) (c : Conn), s.objs[h]? = some c → c.closed = true

theorem AllClosed.setError (hj : AllClosed s) (e : Err) : AllClosed (setError s e) := by
  rw [setError_eq]
  exact hj

theorem AllClosed.doClose (hi : Inv s) (hj : AllClosed s) : AllClosed (doClose s) := by
  intro _ h c hc
  cases hcl : s.closed with
  | false => exact doClose_all_closed hi hcl hc
  | true =>
    rw [doClose_get, hcl] at hc
    exact hj hcl h c (by simpa using hc)

theorem AllClosed.set {h0 : Nat} {c0 c0' : Conn} (hj : AllClosed s)
    (hc0 : s.objs[h0]? = some c0) (hcl : c0.closed = true → c0'.closed = true) :
    AllClosed { s with objs := s.objs.set h0 c0' } := by
  intro hs h c hc
  simp only [List.getElem?_set'] at hc
  split at hc
  · subst h0
    rw [hc0] at hc; cases hc
    exact hcl (hj hs h c0 hc0)
  · exact hj hs h c hc

theorem step_allClosed (hlate : s.cfg.lateClosed = true) (hi : Inv s)
    (hj : AllClosed s) (hs : step s ev = some s') : AllClosed s' := by
  cases Step.of_step hs with
  | closeMux => exact hj.doClose hi
  | writeTorn | readerFail | overflow =>
    exact (hj.setError _).doClose (hi.setError _)
  | readErr => exact hj.setError _
  | readData hc | readEnomem hc | queue _ _ hc => exact hj.set hc id
  | closeOwner hc | closeStale hc => exact hj.set hc fun _ => rfl
  | openNew =>
    intro hcl h c hc
    simp only [List.getElem?_append, List.getElem?_singleton] at hc
    split at hc
    · exact hj hcl h c hc
    · split at hc <;> cases hc
      exact Bool.and_eq_true_iff.mpr ⟨hlate, hcl⟩
  | _ => exact hj

theorem run_allClosed (hlate : s.cfg.lateClosed = true)
    (hi : Inv s) (hj : AllClosed s) (hg : bigBuffers tr = true) (hr : run s tr = some s') :
    AllClosed s' :=
  (Run.induct_on run_eq (D := fun ev => ev.guard = true)
    (P := fun s => s.cfg.lateClosed = true ∧ Inv s ∧ AllClosed s)
    (fun hd ⟨hl, hi, hj⟩ h1 => ⟨step_cfg h1 ▸ hl, hi.step hd h1, step_allClosed hl hi hj h1⟩)
    ⟨hlate, hi, hj⟩ (List.all_eq_true.mp hg) hr).2.2

end Nri.Mux
