/-
The writer-side fail-stop invariant of `NriModel/MuxWriter.lean`: in every run of the REPAIRED
write loop the trunk holds the frames that went out whole, followed by at most one torn frame,
and a torn frame is there only if the mux has closed (so nothing is ever written after it).
Hence a reader decoding the trunk — or any prefix of it — finds exactly (a prefix of) the whole
frames: never a frame glued together from the pieces of two.
-/
import NriModel.MuxWriter
import NriModel.Lemmas.MuxCodec
import NriModel.Lemmas.MuxStream

namespace Nri.Mux

theorem be32Encode_length (n : Nat) : (be32Encode n).length = 4 := rfl

theorem encodeFrame_length (f : Frame) : (encodeFrame f).length = 8 + f.payload.length := by
  simp [encodeFrame, be32Encode_length]; omega

theorem decode_torn (f : Frame) (hlen : f.payload.length < 4294967296) (m : Nat)
    (hm : m < 8 + f.payload.length) : (decode ((encodeFrame f).take m)).1 = [] := by
  by_cases h8 : m < 8
  · rw [decode_short]
    rw [List.length_take]; omega
  · have : (encodeFrame f).take m =
        be32Encode f.id ++ be32Encode f.payload.length ++ f.payload.take (m - 8) := by
      rw [encodeFrame, List.take_append, List.take_of_length_le (by simp [be32Encode_length]; omega)]
      rfl
    rw [this]
    simp only [be32Encode, List.cons_append, List.nil_append]
    rw [decode_cons_short _ _ _ _ _ _ _ _ _ (by rw [be32_ofNat _ hlen, List.length_take]; omega)]

/-- in the code the maximum payload is 4 MiB + 10 and `ConnID` is a `uint32` -/
theorem WOp.ofWrite_bounded (mp id : Nat) (buf : Bytes) (fail : Option (Nat × CallFail))
    (hmp : 0 < mp) (hmp32 : mp < 4294967296) (hid : id < 4294967296) :
    (WOp.ofWrite mp id buf fail).Bounded := by
  intro f hf
  obtain ⟨c, hc, rfl⟩ := List.mem_map.mp hf
  exact ⟨hid, Nat.lt_of_le_of_lt (chunkSpec_length_le mp hmp buf c hc) hmp32⟩

/-- The writer-side invariant: the frames recorded as whole fit their headers (`bounded`), and the
    trunk holds exactly their encoding followed by a `tail` in which the reader finds no frame, a
    non-empty tail only on a mux that has closed (`shape`). -/
structure WInv (s : WSt) : Prop where
  bounded : ∀ f ∈ s.whole, f.id < 4294967296 ∧ f.payload.length < 4294967296
  shape : ∃ tail, s.out = encodeFrames s.whole ++ tail ∧ (tail ≠ [] → s.closed = true) ∧
            (decode tail).1 = []

theorem WInv.of_whole {s : WSt}
    (hw : ∀ f ∈ s.whole, f.id < 4294967296 ∧ f.payload.length < 4294967296)
    (hout : s.out = encodeFrames s.whole) : WInv s :=
  ⟨hw, [], by rw [hout, List.append_nil], fun h => absurd rfl h, by rw [decode_nil]⟩

theorem WInv.torn {s : WSt} {f : Frame} {m : Nat}
    (hw : ∀ f ∈ s.whole, f.id < 4294967296 ∧ f.payload.length < 4294967296)
    (hf : f.payload.length < 4294967296) (hm : m < 8 + f.payload.length)
    (hout : s.out = encodeFrames s.whole ++ (encodeFrame f).take m)
    (hcl : m ≠ 0 → s.closed = true) : WInv s := by
  refine ⟨hw, _, hout, fun hne => hcl fun h0 => hne ?_, decode_torn f hf m hm⟩
  rw [h0, List.take_zero]

theorem WInv.init : WInv {} := .of_whole (fun _ hf => nomatch hf) rfl

theorem writeFramesW_inv (fs : List Frame) (fail : Option (Nat × CallFail)) (s : WSt)
    (hb : ∀ f ∈ fs, f.id < 4294967296 ∧ f.payload.length < 4294967296)
    (hw : ∀ f ∈ s.whole, f.id < 4294967296 ∧ f.payload.length < 4294967296)
    (hout : s.out = encodeFrames s.whole) :
    WInv (writeFramesW true fs fail s).1 := by
  induction fs generalizing fail s with
  | nil => exact .of_whole hw hout
  | cons f fs ih =>
    obtain ⟨hf, hfs⟩ := List.forall_mem_cons.mp hb
    have hw' : ∀ g ∈ s.whole ++ [f], g.id < 4294967296 ∧ g.payload.length < 4294967296 :=
      List.forall_mem_append.mpr ⟨hw, List.forall_mem_singleton.mpr hf⟩
    have hout' : s.out ++ encodeFrame f = encodeFrames (s.whole ++ [f]) := by
      rw [hout, encodeFrames_append]; simp [encodeFrames]
    match fail with
    | none => exact ih none _ hfs hw' hout'
    | some (i + 1, cf) => exact ih (some (i, cf)) _ hfs hw' hout'
    | some (0, .hdr n) =>
      simp only [writeFramesW]
      refine .torn (f := f) (m := min n 7) hw hf.2 (by omega) (by rw [hout]) fun h0 => ?_
      simp [h0]
    | some (0, .payload n) =>
      simp only [writeFramesW]
      split
      · exact .of_whole hw' hout'
      · exact .torn (f := f) (m := 8 + min n f.payload.length) hw hf.2 (by omega)
          (by rw [hout]) fun _ => by simp

theorem wstep_inv (s : WSt) (op : WOp) (hop : op.Bounded) (h : WInv s) : WInv (wstep true s op) := by
  unfold wstep
  by_cases hc : s.closed = true
  · simp [hc]; exact h
  · simp only [hc]
    obtain ⟨tail, hout, hcl, _⟩ := h.shape
    cases Decidable.not_not.mp fun ht => hc (hcl ht)
    exact writeFramesW_inv op.frames op.fail s hop h.bounded (by simpa using hout)

theorem wrun_inv (ops : List WOp) (hops : ∀ op ∈ ops, op.Bounded) (s : WSt) (h : WInv s) :
    WInv (wrun true ops s) :=
  List.foldlRecOn ops _ h fun s hs op hop => wstep_inv s op (hops op hop) hs

theorem WInv.decode_out {s : WSt} (h : WInv s) : (decode s.out).1 = s.whole := by
  obtain ⟨tail, hout, _, hd⟩ := h.shape
  rw [hout, decode_frames _ h.bounded, hd]; simp

theorem wrun_closed (fixed : Bool) (ops : List WOp) (s : WSt) (hc : s.closed = true) :
    wrun fixed ops s = s :=
  List.foldlRecOn (motive := (· = s)) ops _ rfl fun t ht op _ => by rw [ht, wstep, if_pos hc]

end Nri.Mux
