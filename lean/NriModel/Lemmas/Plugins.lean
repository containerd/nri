/-
Facts about `Nri.Plugins` for the C20 theorems. Keys of different containers and families never
coincide (lengths and first characters). Each `parse…` is `Spec.described` of the selected
annotation; the adjuster's two loops succeed exactly when `Spec.rlimitsOf` does. The runtime's
collector (`collect`) is the identity on `Plain` adjustments and otherwise only drops marked
entries; `create_spec` puts the three together.
-/
import NriModel.Plugins

namespace Nri.Plugins
open Nri

theorem containerSuffix_length : containerSuffix.length = 11 := by decide +kernel
theorem podSuffix_length : podSuffix.length = 4 := by decide +kernel

/-- the container-scoped key determines the container name: equality, not prefix -/
theorem containerKey_inj {m c c' : Str} (h : containerKey m c = containerKey m c') : c = c' :=
  List.append_cancel_left (List.append_cancel_left h)

theorem containerKey_ne_podKey (m c : Str) : containerKey m c ≠ podKey m := by
  intro h
  have := congrArg List.length h
  simp [containerKey, podKey, containerSuffix_length, podSuffix_length] at this
  omega

theorem containerKey_ne_main (m c : Str) : containerKey m c ≠ m := by
  intro h
  have := congrArg List.length h
  simp [containerKey, containerSuffix_length] at this

theorem podKey_ne_main (m : Str) : podKey m ≠ m := by
  intro h
  have := congrArg List.length h
  simp [podKey, podSuffix_length] at this

def mainKeys : List Str := [deviceKey, cdiDeviceKey, mountKey, ulimitKey]

/-- every key either plugin ever looks up for container `ctr` -/
def relevantKeys (ctr : Str) : List Str :=
  [ containerKey deviceKey ctr, podKey deviceKey, deviceKey,
    containerKey cdiDeviceKey ctr, podKey cdiDeviceKey, cdiDeviceKey,
    containerKey mountKey ctr, podKey mountKey, mountKey,
    containerKey ulimitKey ctr ]

theorem mainKeys_sep :
    ∀ m ∈ mainKeys, m ≠ [] ∧ ∀ m2 ∈ mainKeys, m = m2 ∨ m.head? ≠ m2.head? := by
  decide +kernel

theorem relevantKeys_eq (c : Str) :
    relevantKeys c = (mainKeys.flatMap fun m => [containerKey m c, podKey m, m]).take 10 := rfl

theorem other_container_irrelevant {m c c' : Str} (hm : m ∈ mainKeys) (hne : c' ≠ c) :
    containerKey m c' ∉ relevantKeys c := by
  intro hin
  obtain ⟨m2, hm2, h⟩ := List.mem_flatMap.mp (List.mem_of_mem_take (relevantKeys_eq c ▸ hin))
  simp only [List.mem_cons, List.mem_nil_iff, or_false] at h
  obtain ⟨hn, hsep⟩ := mainKeys_sep m hm
  rcases hsep m2 hm2 with rfl | hd
  · rcases h with h | h | h
    · exact hne (containerKey_inj h)
    · exact containerKey_ne_podKey _ _ h
    · exact containerKey_ne_main _ _ h
  · -- both families are non-empty, so each of the three keys begins like its family
    obtain ⟨a, t, rfl⟩ := List.exists_cons_of_ne_nil hn
    obtain ⟨a2, t2, rfl⟩ := List.exists_cons_of_ne_nil (mainKeys_sep _ hm2).1
    rcases h with h | h | h <;> exact hd (congrArg List.head? h :)

theorem getAnnotation_eq_spec (ann : Annotations) (main ctr : Str) :
    getAnnotation ann main ctr = Spec.injectorAnnotation ann main ctr := by
  unfold getAnnotation Spec.injectorAnnotation firstPresent firstPresent firstPresent firstPresent
  cases AList.lookup ann (containerKey main ctr) <;>
  cases AList.lookup ann (podKey main) <;>
  cases AList.lookup ann main <;> rfl

theorem parseDevices_eq (Y : Yaml) (ann : Annotations) (ctr : Str) :
    parseDevices Y ann ctr =
      match Spec.described Y.devices (Spec.injectorAnnotation ann deviceKey ctr) with
      | none => .error .badDevices
      | some ds => .ok ds := by
  unfold parseDevices
  rw [getAnnotation_eq_spec]
  cases Spec.injectorAnnotation ann deviceKey ctr <;> rfl

theorem parseCDIDevices_eq (Y : Yaml) (ann : Annotations) (ctr : Str) :
    parseCDIDevices Y ann ctr =
      match Spec.described Y.cdi (Spec.injectorAnnotation ann cdiDeviceKey ctr) with
      | none => .error .badCDI
      | some cs => .ok cs := by
  unfold parseCDIDevices
  rw [getAnnotation_eq_spec]
  cases Spec.injectorAnnotation ann cdiDeviceKey ctr <;> rfl

theorem parseMounts_eq (Y : Yaml) (ann : Annotations) (ctr : Str) :
    parseMounts Y ann ctr =
      match Spec.described Y.mounts (Spec.injectorAnnotation ann mountKey ctr) with
      | none => .error .badMounts
      | some ms => .ok ms := by
  unfold parseMounts
  rw [getAnnotation_eq_spec]
  cases Spec.injectorAnnotation ann mountKey ctr <;> rfl

/-- the two loops of the adjuster (validate every type, then check every hard ≥ soft) -/
def adjusterCore (us : List Ulimit) : Except Err (List Rlimit) :=
  match normaliseAll us with
  | .error e => .error e
  | .ok us' => adjustUlimits us'

/-- which error is reported depends on the order of the two loops; whether there is one does not -/
theorem adjusterCore_toOption (us : List Ulimit) :
    (adjusterCore us).toOption = Spec.rlimitsOf us := by
  induction us with
  | nil => rfl
  | cons u rest ih =>
    unfold Spec.rlimitsOf Spec.rlimitOf
    rw [← ih]
    simp only [adjusterCore, normaliseAll]
    cases normalise u.type with
    | none => rfl
    | some n =>
      by_cases hlt : u.hard < u.soft
      · cases normaliseAll rest <;> simp [adjustUlimits, hlt, Except.toOption]
      · cases normaliseAll rest with
        | error e => simp [hlt, Except.toOption]
        | ok rest' => cases h : adjustUlimits rest' <;> simp [adjustUlimits, hlt, Except.toOption, h]

theorem adjusterCore_ok_iff (us : List Ulimit) (rs : List Rlimit) :
    adjusterCore us = .ok rs ↔ Spec.rlimitsOf us = some rs := by
  rw [← adjusterCore_toOption]
  cases adjusterCore us <;> simp [Except.toOption]

theorem adjusterCore_error_iff (us : List Ulimit) :
    (∃ e, adjusterCore us = .error e) ↔ Spec.rlimitsOf us = none := by
  rw [← adjusterCore_toOption]
  cases adjusterCore us <;> simp [Except.toOption]

theorem adjuster_eq (Y : Yaml) (ann : Annotations) (ctr : Str) :
    adjuster Y ann ctr =
      match Spec.described Y.ulimits (Spec.adjusterAnnotation ann ctr) with
      | none => .error .badUlimits
      | some us =>
        match adjusterCore us with
        | .error e => .error e
        | .ok rs => .ok { rlimits := rs } := by
  unfold adjuster parseUlimits Spec.adjusterAnnotation adjusterCore
  cases AList.lookup ann (containerKey ulimitKey ctr) with
  | none => rfl
  | some raw =>
    simp only [Spec.described]
    cases Y.ulimits raw with
    | none => rfl
    | some us =>
      dsimp only
      cases normaliseAll us <;> rfl

theorem filter_not_of_any_false {α : Type} {p : α → Bool} {l : List α} (h : l.any p = false) :
    l.filter (fun x => !p x) = l := by
  rw [List.filter_eq_self]
  intro x hx
  simpa using List.any_eq_false.mp h x hx

/-- what `result.adjust` makes of the two replies that together say `a` -/
def collect (a : Adjust) : Except Err Adjust :=
  match mergeInjector { a with rlimits := [] } with
  | .error e => .error e
  | .ok r1 => mergeAdjuster r1 { rlimits := a.rlimits }

theorem collect_plain {a : Adjust} (hp : Plain a = true) : collect a = .ok a := by
  simp only [Plain, Bool.and_eq_true, Bool.not_eq_true'] at hp
  obtain ⟨⟨⟨⟨⟨p1, p2⟩, p3⟩, p4⟩, p5⟩, p6⟩ := hp
  simp [collect, mergeInjector, mergeAdjuster, filter_not_of_any_false p1, filter_not_of_any_false p2,
    p3, p4, p5, p6]

theorem ok_of_ite_error {ε α : Type} {c : Prop} [Decidable c] {e : ε} {x : Except ε α} {r : α}
    (h : (if c then .error e else x) = .ok r) : x = .ok r := by
  split at h
  · cases h
  · exact h

theorem collect_ok {a r : Adjust} (h : collect a = .ok r) :
    r.cdi = a.cdi ∧ r.rlimits = a.rlimits ∧
      r.mounts = a.mounts.filter (fun m => !marked m.destination) ∧
      r.devices = a.devices.filter (fun d => !marked d.path) := by
  unfold collect at h
  cases hm : mergeInjector { a with rlimits := [] } with
  | error e => simp [hm] at h
  | ok r1 =>
    rw [hm] at h
    cases ok_of_ite_error (ok_of_ite_error (ok_of_ite_error hm))
    cases ok_of_ite_error h
    exact ⟨rfl, rfl, rfl, rfl⟩

theorem create_spec (Y : Yaml) (ann : Annotations) (ctr : Str) :
    match Spec.expected Y ann ctr with
    | some a => create Y ann ctr = collect a
    | none => ∃ e, create Y ann ctr = .error e := by
  unfold Spec.expected create injector injectDevices injectCDIDevices injectMounts
  rw [parseDevices_eq, parseCDIDevices_eq, parseMounts_eq, adjuster_eq]
  cases Spec.described Y.devices _ with
  | none => exact ⟨_, rfl⟩
  | some ds =>
    cases Spec.described Y.cdi _ with
    | none => exact ⟨_, rfl⟩
    | some cs =>
      cases Spec.described Y.mounts _ with
      | none => exact ⟨_, rfl⟩
      | some ms =>
        -- whether the collector accepts the injector's reply matters only if the adjuster succeeds
        cases Spec.described Y.ulimits _ with
        | none =>
          dsimp only
          cases mergeInjector _ <;> exact ⟨_, rfl⟩
        | some us =>
          dsimp only
          cases h5 : Spec.rlimitsOf us with
          | none =>
            obtain ⟨e, he⟩ := (adjusterCore_error_iff us).mpr h5
            rw [he]
            cases mergeInjector _ <;> exact ⟨_, rfl⟩
          | some rs =>
            rw [(adjusterCore_ok_iff us rs).mpr h5]
            rfl

theorem expected_some {Y : Yaml} {ann : Annotations} {ctr : Str} {a : Adjust} :
    Spec.expected Y ann ctr = some a ↔
    ∃ ds cs ms us rs,
      Spec.described Y.devices (Spec.injectorAnnotation ann deviceKey ctr) = some ds ∧
      Spec.described Y.cdi (Spec.injectorAnnotation ann cdiDeviceKey ctr) = some cs ∧
      Spec.described Y.mounts (Spec.injectorAnnotation ann mountKey ctr) = some ms ∧
      Spec.described Y.ulimits (Spec.adjusterAnnotation ann ctr) = some us ∧
      Spec.rlimitsOf us = some rs ∧
      a = { devices := ds.map Device.toNRI, cdi := cs, mounts := ms, rlimits := rs } := by
  unfold Spec.expected
  constructor
  · intro h
    split at h
    · rename_i ds cs ms us h1 h2 h3 h4
      split at h
      · rename_i rs h5
        exact ⟨ds, cs, ms, us, rs, h1, h2, h3, h4, h5, (Option.some.inj h).symm⟩
      · cases h
    · cases h
  · rintro ⟨ds, cs, ms, us, rs, h1, h2, h3, h4, h5, rfl⟩
    simp only [h1, h2, h3, h4, h5]

theorem rlimitsOf_of_all {us : List Ulimit}
    (h : ∀ u ∈ us, (normalise u.type).isSome ∧ u.soft ≤ u.hard) :
    Spec.rlimitsOf us = some (us.map fun u =>
      { type := rlimitPrefix ++ trimPrefix rlimitPrefix (toUpper u.type), hard := u.hard, soft := u.soft }) := by
  induction us with
  | nil => rfl
  | cons u rest ih =>
    obtain ⟨⟨hs, hle⟩, hr⟩ := List.forall_mem_cons.mp h
    have hn : normalise u.type = some (rlimitPrefix ++ trimPrefix rlimitPrefix (toUpper u.type)) := by
      simp only [normalise] at hs ⊢
      split
      · rfl
      · simp [*] at hs
    simp [Spec.rlimitsOf, Spec.rlimitOf, hn, ih hr, Nat.not_lt.mpr hle]

theorem rlimitsOf_none_of_bad {us : List Ulimit} {u : Ulimit} (hu : u ∈ us)
    (hbad : normalise u.type = none ∨ u.hard < u.soft) : Spec.rlimitsOf us = none := by
  induction us with
  | nil => cases hu
  | cons x rest ih =>
    unfold Spec.rlimitsOf
    rcases List.mem_cons.mp hu with rfl | hin
    · have : Spec.rlimitOf u = none := by
        unfold Spec.rlimitOf
        cases hn : normalise u.type <;> simp_all
      simp [this]
    · rw [ih hin]
      cases Spec.rlimitOf x <;> rfl

end Nri.Plugins
