/-
The rlimit-name normalisation of the ulimit adjuster (`normalise`, property C20). For upper case
everything rests on one fact about `upperTable`: its keys are the small letters and two runes
beyond ASCII, its values are capitals, so code point 97 (`'a'`) separates the two.
-/
import NriModel.Plugins

namespace Nri.Plugins
open Nri

theorem upperTable_split : ∀ p ∈ upperTable, p.2.toNat < 97 ∧ 97 ≤ p.1.toNat := by
  decide +kernel

theorem tableLookup_mem {t : List (Char × Char)} {c u : Char} (h : tableLookup t c = some u) :
    (c, u) ∈ t := by
  induction t with
  | nil => cases h
  | cons p rest ih =>
    obtain ⟨a, b⟩ := p
    unfold tableLookup at h
    split at h
    · simp_all
    · exact List.mem_cons_of_mem _ (ih h)

theorem upperChar_of_lt {c : Char} (h : c.toNat < 97) : upperChar c = c := by
  unfold upperChar
  cases hl : tableLookup upperTable c with
  | none => rfl
  | some u =>
    have : 97 ≤ c.toNat := (upperTable_split _ (tableLookup_mem hl)).2
    omega

theorem toUpper_of_lt {s : Str} (h : ∀ c ∈ s, c.toNat < 97) : toUpper s = s :=
  (List.map_congr_left fun c hc => upperChar_of_lt (h c hc)).trans (List.map_id' s)

theorem upperChar_idem (c : Char) : upperChar (upperChar c) = upperChar c := by
  cases h : tableLookup upperTable c with
  | none => simp only [upperChar, h]
  | some u =>
    have hu : upperChar c = u := by simp only [upperChar, h]
    rw [hu]
    exact upperChar_of_lt (upperTable_split _ (tableLookup_mem h)).1

theorem toUpper_idem (s : Str) : toUpper (toUpper s) = toUpper s := by
  simp [toUpper, upperChar_idem]

theorem toUpper_append (s t : Str) : toUpper (s ++ t) = toUpper s ++ toUpper t :=
  List.map_append

theorem stripPrefix?_eq_some {p s r : Str} : stripPrefix? p s = some r ↔ s = p ++ r := by
  induction p generalizing s with
  | nil => simp [stripPrefix?, eq_comm]
  | cons a p ih =>
    cases s with
    | nil => simp [stripPrefix?]
    | cons b s => simp [stripPrefix?, ih, eq_comm (a := a)]

theorem stripPrefix?_append (p s : Str) : stripPrefix? p (p ++ s) = some s :=
  stripPrefix?_eq_some.mpr rfl

theorem trimPrefix_append (p s : Str) : trimPrefix p (p ++ s) = s := by
  simp [trimPrefix, stripPrefix?_append]

/-- below `'a'`: capitals and `_`, which `ToUpper` leaves alone -/
theorem validNames_table :
    ∀ v ∈ validNames, (∀ c ∈ v, c.toNat < 97) ∧ stripPrefix? rlimitPrefix v = none := by
  decide +kernel

theorem valid_upper : ∀ v ∈ validNames, toUpper v = v :=
  fun v hv => toUpper_of_lt (validNames_table v hv).1

theorem valid_noprefix : ∀ v ∈ validNames, stripPrefix? rlimitPrefix v = none :=
  fun v hv => (validNames_table v hv).2

theorem rlimitPrefix_upper : toUpper rlimitPrefix = rlimitPrefix :=
  toUpper_of_lt (by decide +kernel)

theorem normalise_some_iff (t n : Str) :
    normalise t = some n ↔
      ∃ v ∈ validNames, n = rlimitPrefix ++ v ∧ (toUpper t = v ∨ toUpper t = rlimitPrefix ++ v) := by
  unfold normalise
  constructor
  · intro h
    simp only at h
    split at h
    · rename_i hv
      refine ⟨_, hv, (Option.some.inj h).symm, ?_⟩
      unfold trimPrefix
      cases hs : stripPrefix? rlimitPrefix (toUpper t) with
      | none => exact Or.inl rfl
      | some r => exact Or.inr (stripPrefix?_eq_some.mp hs)
    · cases h
  · rintro ⟨v, hv, rfl, h | h⟩
    · simp [h, trimPrefix, valid_noprefix v hv, hv]
    · simp [h, trimPrefix_append, hv]

end Nri.Plugins
