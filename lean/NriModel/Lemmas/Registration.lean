/-
Helper lemmas for C17 about `Registration`: index check, mask check, the phases of the
handshake, and the accept loop.
-/
import NriModel.Registration

namespace Nri.Lemmas.Registration
open Nri Nri.Events Nri.Registration

theorem utf8Size_of_digit {c : Char} (h : isDigit c = true) : c.utf8Size = 1 := by
  simp only [isDigit, Bool.and_eq_true, decide_eq_true_eq, Char.le_def] at h
  exact Char.utf8Size_eq_one_iff.mpr (UInt32.le_trans h.2 (by decide))

theorem checkIndex_iff (idx : Str) : checkIndex idx = .ok () ↔ TwoDigits idx := by
  constructor
  · intro h
    unfold checkIndex at h
    by_cases hl : utf8Len idx ≠ 2
    · simp [hl] at h
    · simp only [hl, if_false] at h
      rcases idx with _ | ⟨a, _ | ⟨b, _ | ⟨c, rest⟩⟩⟩
      · simp at h
      · simp at h
      · by_cases hd : (isDigit a && isDigit b) = true
        · simp only [Bool.and_eq_true] at hd
          exact ⟨a, b, rfl, hd.1, hd.2⟩
        · simp [hd] at h
      · simp at h
  · intro ⟨a, b, hab, ha, hb⟩
    subst hab
    have : utf8Len [a, b] = 2 := by
      simp [utf8Len, utf8Size_of_digit ha, utf8Size_of_digit hb]
    simp [checkIndex, this, ha, hb]

theorem registerPlugin_ext_iff (pre : Str × Str) (name idx : Str) (r : Str × Str) :
    registerPlugin true pre name idx = .ok r ↔ name ≠ [] ∧ TwoDigits idx ∧ r = (idx, name) := by
  unfold registerPlugin
  by_cases hn : name = []
  · simp [hn]
  · cases hc : checkIndex idx with
    | error e =>
      have : ¬ TwoDigits idx := fun ht => by
        rw [(checkIndex_iff idx).mpr ht] at hc
        cases hc
      simp [hn, this]
    | ok u =>
      have ht : TwoDigits idx := (checkIndex_iff idx).mp hc
      simp [hn, ht, eq_comm]

theorem configureMask_iff (m m' : Mask) :
    configureMask m = .ok m' ↔ m &&& ~~~valid = 0#32 ∧ m' = (if m = 0#32 then valid else m) := by
  unfold configureMask
  by_cases hz : m = 0#32
  · subst hz
    simp [eq_comm]
  · by_cases hx : m &&& ~~~valid = 0#32 <;> simp [hz, hx, eq_comm]

/-- the plugin answers a request within the request timeout -/
def Answers (at_ : Option Nat) (limit : Nat) : Prop := ∃ d, at_ = some d ∧ d < limit

section
variable (to : Timeouts) (b : Behaviour)

theorem syncPhase_spec (i n : Str) (m : Mask) (t : Nat) :
    (syncPhase to b i n m t).configured = true ∧ (syncPhase to b i n m t).synced = true ∧
    (syncPhase to b i n m t).elapsed ≤ t + to.req ∧
    ∀ i' n' m', (syncPhase to b i n m t).outcome = .activated i' n' m' ↔
      Answers b.syncAt to.req ∧ b.syncErr = false ∧ i' = i ∧ n' = n ∧ m' = m := by
  unfold syncPhase Answers
  cases b.syncAt with
  | none => simp
  | some d =>
    by_cases hd : d < to.req
    · cases b.syncErr <;> simp [hd, Nat.le_of_lt hd, eq_comm]
    · simp [hd]

/-- The `2 *` in the bound: `Configure` and the `Synchronize` that follows it are each given one
    request timeout. -/
theorem configurePhase_spec (i n : Str) (t : Nat) :
    (configurePhase to b i n t).configured = true ∧
    (configurePhase to b i n t).elapsed ≤ t + 2 * to.req ∧
    ((configurePhase to b i n t).synced = true →
       Answers b.cfgAt to.req ∧ b.cfgErr = false ∧ b.events &&& ~~~valid = 0#32) ∧
    ∀ i' n' m', (configurePhase to b i n t).outcome = .activated i' n' m' ↔
      Answers b.cfgAt to.req ∧ b.cfgErr = false ∧ b.events &&& ~~~valid = 0#32 ∧
      Answers b.syncAt to.req ∧ b.syncErr = false ∧ i' = i ∧ n' = n ∧
      m' = (if b.events = 0#32 then valid else b.events) := by
  unfold configurePhase
  cases hc : b.cfgAt with
  | none => simp [Answers]; omega                    -- Configure is never answered
  | some d =>
    by_cases hd : d < to.req
    · have hA : Answers (some d) to.req := ⟨d, rfl, hd⟩
      cases b.cfgErr with
      | true => simp [hd]; omega                      -- answered in time, with an error
      | false =>
        cases hm : configureMask b.events with
        | error x =>                                  -- answered in time, mask refused
          cases x
          have hv : ¬ b.events &&& ~~~valid = 0#32 := fun hv => by
            rw [(configureMask_iff b.events _).mpr ⟨hv, rfl⟩] at hm
            cases hm
          simp [hd, hv]
          omega
        | ok m =>                                     -- mask accepted: on to `syncPhase`
          -- every guard holds, so each part is the corresponding part of `syncPhase_spec`;
          -- what is left for `omega` is its time bound, started at `t + d`
          obtain ⟨hv, rfl⟩ := (configureMask_iff b.events m).mp hm
          have hs := syncPhase_spec to b i n (if b.events = 0#32 then valid else b.events) (t + d)
          have := hs.2.2.1
          simp only [hd, if_true, Bool.false_eq_true, if_false, hs, hA, hv, true_and, and_true, implies_true]
          omega
    · simp [hd, Answers]; omega                       -- answered too late

end

/-- the registration wins the race against the plugin hanging up and the timer -/
def Timely (to : Timeouts) (b : Behaviour) : Prop :=
  ∃ r, b.regAt = some r ∧ r < to.reg ∧ ∀ c, b.closeAt = some c → r < c

section
variable (to : Timeouts) (b : Behaviour)

theorem lt_regLimit_iff (r : Nat) :
    r < regLimit to b ↔ r < to.reg ∧ ∀ c, b.closeAt = some c → r < c := by
  unfold regLimit
  cases b.closeAt with
  | none => simp
  | some c =>
    simp only [Option.some.injEq, forall_eq']
    omega

theorem regLost_facts :
    (∀ i n m, (regLost to b).outcome ≠ .activated i n m) ∧ (regLost to b).configured = false ∧
    (regLost to b).synced = false ∧ (regLost to b).elapsed ≤ to.reg := by
  unfold regLost
  cases b.closeAt with
  | none => simp
  | some c =>
    by_cases hc : c < to.reg
    · simp [hc]; omega
    · simp [hc]

/-- The three ways one pass of the loop can go, the guards of `handle` read as the conditions the
    property speaks of. -/
theorem handle_cases :
    (¬ Timely to b ∧ handle to b = regLost to b) ∨
    (Timely to b ∧ ∃ r, b.regAt = some r ∧ r < to.reg ∧
      ((¬ (b.name ≠ [] ∧ TwoDigits b.idx) ∧ ∃ e, handle to b = ⟨.regRejected e, false, false, r, false⟩) ∨
       (b.name ≠ [] ∧ TwoDigits b.idx ∧ handle to b = configurePhase to b b.idx b.name r))) := by
  unfold handle
  cases hr : b.regAt with
  | none => exact .inl ⟨fun ⟨_, h, _⟩ => (by rw [hr] at h; cases h), rfl⟩
  | some r =>
    by_cases hl : r < regLimit to b
    · have hlt := (lt_regLimit_iff to b r).mp hl
      refine .inr ⟨⟨r, hr, hlt⟩, r, rfl, hlt.1, ?_⟩
      simp only [hl, if_true]
      cases hreg : registerPlugin true ([], []) b.name b.idx with
      | error e =>
        refine .inl ⟨fun ⟨h1, h2⟩ => ?_, e, rfl⟩
        rw [(registerPlugin_ext_iff _ _ _ _).mpr ⟨h1, h2, rfl⟩] at hreg
        cases hreg
      | ok pr =>
        obtain ⟨h1, h2, rfl⟩ := (registerPlugin_ext_iff _ _ _ _).mp hreg
        exact .inr ⟨h1, h2, rfl⟩
    · refine .inl ⟨fun ⟨r', h, h'⟩ => ?_, if_neg hl⟩
      rw [hr] at h
      cases h
      exact hl ((lt_regLimit_iff to b r).mpr h')

theorem handle_flags :
    (handle to b).elapsed ≤ to.reg + 2 * to.req ∧
    ((handle to b).configured = true → Timely to b ∧ b.name ≠ [] ∧ TwoDigits b.idx) ∧
    ((handle to b).synced = true →
       Timely to b ∧ b.name ≠ [] ∧ TwoDigits b.idx ∧
       Answers b.cfgAt to.req ∧ b.cfgErr = false ∧ b.events &&& ~~~valid = 0#32) := by
  rcases handle_cases to b with ⟨_, h⟩ | ⟨hT, r, _, hr, ⟨_, e, h⟩ | ⟨h1, h2, h⟩⟩
  · -- registration lost
    have := regLost_facts to b
    rw [h, this.2.1, this.2.2.1]
    exact ⟨by omega, nofun, nofun⟩
  · -- registration refused
    rw [h]
    exact ⟨by show r ≤ _; omega, nofun, nofun⟩
  · -- registered
    have hf := configurePhase_spec to b b.idx b.name r
    rw [h]
    exact ⟨by omega, fun _ => ⟨hT, h1, h2⟩, fun hs => ⟨hT, h1, h2, hf.2.2.1 hs⟩⟩

/-- the `r.plugins` entry that connection number `j` contributes, if it is activated -/
def entry (bj : Behaviour × Nat) : Option Active :=
  match (handle to bj.1).outcome with
  | .activated idx name ev => some ⟨bj.2, idx, name, ev⟩
  | _ => none

theorem entry_eq_some (j : Nat) (a : Active) :
    entry to (b, j) = some a ↔
      a.conn = j ∧ (handle to b).outcome = .activated a.idx a.name a.events := by
  obtain ⟨c, i, n, e⟩ := a
  unfold entry
  cases (handle to b).outcome <;> simp [eq_comm]

theorem acceptAll_spec (s : State) (bs : List Behaviour) :
    (acceptAll to s bs).2 = bs.map (handle to) ∧
    (acceptAll to s bs).1.plugins = s.plugins ++ (bs.zipIdx s.accepted).filterMap (entry to) ∧
    (acceptAll to s bs).1.accepted = s.accepted + bs.length ∧
    ∀ k, (∀ b, (handle to b).elapsed ≤ k) → (acceptAll to s bs).1.clock ≤ s.clock + bs.length * k := by
  induction bs generalizing s with
  | nil => simp [acceptAll]
  | cons b bs ih =>
    obtain ⟨h1, h2, h3, h4⟩ := ih (accept to s b).1
    simp only [acceptAll, List.map_cons, List.length_cons, List.zipIdx_cons, List.filterMap_cons]
    refine ⟨by rw [h1]; rfl, ?_, by rw [h3]; simp only [accept]; omega, fun k hk => ?_⟩
    · rw [h2]
      simp only [accept, entry]
      cases (handle to b).outcome <;> simp
    · have := h4 k hk
      have := hk b
      simp only [accept, Nat.succ_mul] at *
      omega

end

end Nri.Lemmas.Registration
