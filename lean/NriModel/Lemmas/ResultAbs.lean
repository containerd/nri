/-
Refinement of the abstract ledger (`Ledger.absRun`) by the result.go model: whenever the
abstract ledger accepts a chain, the model's request loop succeeds. Needs the agreement
invariant between the ledger and the collected reply lists of the keyed list families
(`ReplyHolds`): the owner of a mount / device / environment variable is only cleared when the
reply holds an entry for it, and every claim of these families puts one there.
-/
import NriModel.Lemmas.ResultView

namespace Nri.Result
open Nri.NApi Nri.Ledger

theorem adjustData_reply_keyed (q : Quirks) (st : State) (a : Adjustment) :
    (adjustData q st a).reply.mounts = (mountData st a.mounts).reply.mounts ∧
    (adjustData q st a).reply.env = (envData q st a.env).reply.env ∧
    (adjustData q st a).reply.devices =
      (if a.hasLinux then (deviceData q st a.devices).reply.devices else st.reply.devices) := by
  cases h : a.hasLinux <;>
    simp only [adjustData, h, argsData_eq, hooksData_eq, resData_eq, cgroupsData_eq, oomData_eq, annData, mountData,
      envData, deviceData, rlimitData, cdiData, ↓reduceIte, Bool.false_eq_true, and_self]

/-- the reply list `mountData`, `envData` and `deviceData` build, for any key function -/
theorem mem_keyed_reply {α : Type} {key : α → Str} {old new lone : List α} {x : α}
    (h : x ∈ old ∧ key x ∉ delKeys (new.map key) ∨ x ∈ new ∧ (isMarked (key x)).2 = false) :
    x ∈ old.filter (fun y => !(delKeys (new.map key)).contains (key y)) ++
      new.filter (fun y => !(isMarked (key y)).2) ++ lone := by
  simp only [List.mem_append, List.mem_filter, List.contains_eq_mem, Bool.not_eq_true', decide_eq_false_iff_not]
  exact .inl h

/-- the ledger/reply agreement for the keyed list families of the container being created -/
structure ReplyHolds (st : State) : Prop where
  mounts : ∀ d w, st.owners.owner (cidOf st.kind) (.mount d) = some w → ∃ m ∈ st.reply.mounts, m.destination = d
  env : ∀ n w, st.owners.owner (cidOf st.kind) (.env n) = some w → ∃ e ∈ st.reply.env, e.key = n
  devices : ∀ d w, st.owners.owner (cidOf st.kind) (.device d) = some w → ∃ x ∈ st.reply.devices, x.path = d

theorem ReplyHolds.inReply {st : State} (rh : ReplyHolds st) (it : Item) (w : Plugin)
    (ho : st.owners.owner (cidOf st.kind) it = some w) : InReply st.reply it := by
  cases it
  case mount d => exact rh.mounts d w ho
  case env n => exact rh.env n w ho
  case device d => exact rh.devices d w ho
  all_goals trivial

/-- every alternative of `mem_resSetsWith_iff` equates the item with another constructor -/
theorem keyed_not_mem_resSetsWith (r : Resources) (b : Bool) (d : Str) :
    Item.mount d ∉ resSetsWith r b ∧ Item.env d ∉ resSetsWith r b ∧ Item.device d ∉ resSetsWith r b := by
  simp [mem_resSetsWith_iff, mem_memSets_iff, mem_cpuSets_iff]

theorem mem_adjustSets_iff (a : Adjustment) (it : Item) : it ∈ adjustSets a ↔
    (∃ kv ∈ annSet a.annotations, it = .annotation kv.1) ∨
    (∃ m ∈ a.mounts, (isMarked m.destination).2 = false ∧ it = .mount m.destination) ∨
    (∃ e ∈ a.env, (isMarked e.key).2 = false ∧ it = .env e.key) ∨
    (a.args ≠ [] ∧ it = .args) ∨
    (a.hasLinux = true ∧
      ((∃ x ∈ a.devices, (isMarked x.path).2 = false ∧ it = .device x.path) ∨
       (∃ r, a.resources = some r ∧ it ∈ resSets r) ∨
       (a.cgroupsPath ≠ [] ∧ it = .cgroupsPath) ∨ (a.oomScoreAdj.isSome ∧ it = .oomScoreAdj))) ∨
    (∃ l ∈ a.rlimits, it = .rlimit l.type) ∨ (∃ n ∈ a.cdiDevices, it = .cdi n) := by
  have hr : (it ∈ match a.resources with | some r => resSets r | none => []) ↔
      ∃ r, a.resources = some r ∧ it ∈ resSets r := by
    cases a.resources <;> simp
  simp only [adjustSets, annSets, mountSets, envSets, argsSets, deviceSets, cgroupsSets, oomSets, rlimitSets, cdiSets,
    List.mem_append, List.mem_map, List.mem_filter, List.mem_ite_nil_right, List.mem_ite_nil_left, List.mem_singleton,
    Bool.not_eq_true', or_assoc, and_assoc, eq_comm (b := it), ne_eq]
  -- the two sides now differ only in how the `match` on `a.resources` is written
  exact or_congr .rfl (or_congr .rfl (or_congr .rfl (or_congr .rfl
    (or_congr (and_congr .rfl (or_congr .rfl (or_congr hr .rfl))) .rfl))))

/-- in `mem_adjustSets_iff` the constructor of the item selects the family, and resource items are
    none of the three -/
theorem keyed_mem_adjustSets (a : Adjustment) (d : Str) :
    (Item.mount d ∈ adjustSets a ↔ ∃ m ∈ a.mounts, (isMarked m.destination).2 = false ∧ m.destination = d) ∧
    (Item.env d ∈ adjustSets a ↔ ∃ e ∈ a.env, (isMarked e.key).2 = false ∧ e.key = d) ∧
    (Item.device d ∈ adjustSets a ↔
      a.hasLinux = true ∧ ∃ x ∈ a.devices, (isMarked x.path).2 = false ∧ x.path = d) := by
  simp [mem_adjustSets_iff, resSets, keyed_not_mem_resSetsWith, eq_comm (a := d)]

/-- a removal marker for an owned item really clears its owner -/
theorem clears_effective (st : State) (a : Adjustment) (rh : ReplyHolds st) (it : Item) (w : Plugin)
    (ho : st.owners.owner (cidOf st.kind) it = some w) (hrm : it ∈ removesAdj a) :
    it ∈ adjustClears Quirks.fixed st a :=
  (mem_adjustClears_iff st a it).2 ⟨hrm, rh.inReply it w ho⟩

/-- the general form of the `C02_release_*` theorems: `InReply` is `True` for annotations and args -/
theorem adjust_releases (st st' : State) (p : Plugin) (a : Adjustment) (it : Item) (hrm : it ∈ removesAdj a)
    (hin : InReply st.reply it) (h : adjust Quirks.fixed st p (some a) = .ok st') (w : Plugin)
    (ho : st'.owners.owner (cidOf st.kind) it = some w) : w = p ∧ it ∈ adjustSets a := by
  rcases adjust_owner_origin _ st st' p a h _ it w ho with ⟨_, h2⟩ | ⟨_, hm, hw⟩
  · exact absurd ((mem_adjustClears_iff st a it).2 ⟨hrm, hin⟩) (h2.resolve_left (· rfl))
  · exact ⟨hw, hm⟩

theorem replyHolds_adjust (st st' p a) (rh : ReplyHolds st) (h : adjust Quirks.fixed st p (some a) = .ok st') :
    ReplyHolds st' := by
  have hk := adjust_kind _ st st' p (some a) h
  -- an item owned afterwards had an entry and is not marked for removal, or is set
  have key : ∀ it w, st'.owners.owner (cidOf st'.kind) it = some w →
      InReply st.reply it ∧ it ∉ removesAdj a ∨ it ∈ adjustSets a := by
    intro it w ho
    rw [hk] at ho
    rcases adjust_owner_origin _ st st' p a h _ it w ho with ⟨h1, h2⟩ | ⟨_, h2, _⟩
    · have hin := rh.inReply it w h1
      exact .inl ⟨hin, fun hrm => h2.elim (· rfl) (· ((mem_adjustClears_iff st a it).2 ⟨hrm, hin⟩))⟩
    · exact .inr h2
  obtain ⟨o, _, rfl⟩ := (adjust_ok_iff _ st st' p a).1 h
  obtain ⟨hm, he, hd⟩ := adjustData_reply_keyed Quirks.fixed st a
  constructor
  · intro d w ho
    show ∃ m ∈ (adjustData Quirks.fixed st a).reply.mounts, m.destination = d
    rw [hm]
    rcases key _ w ho with ⟨⟨m, hmem, rfl⟩, hnr⟩ | hs
    · exact ⟨m, mem_keyed_reply (.inl ⟨hmem, by simpa [mem_removesAdj_iff] using hnr⟩), rfl⟩
    · obtain ⟨m, hmem, hu, rfl⟩ := (keyed_mem_adjustSets a d).1.1 hs
      exact ⟨m, mem_keyed_reply (.inr ⟨hmem, hu⟩), rfl⟩
  · intro n w ho
    show ∃ e ∈ (adjustData Quirks.fixed st a).reply.env, e.key = n
    rw [he]
    rcases key _ w ho with ⟨⟨e, hmem, rfl⟩, hnr⟩ | hs
    · exact ⟨e, mem_keyed_reply (.inl ⟨hmem, by simpa [mem_removesAdj_iff] using hnr⟩), rfl⟩
    · obtain ⟨e, hmem, hu, rfl⟩ := (keyed_mem_adjustSets a n).2.1.1 hs
      exact ⟨e, mem_keyed_reply (.inr ⟨hmem, hu⟩), rfl⟩
  · intro d w ho
    show ∃ x ∈ (adjustData Quirks.fixed st a).reply.devices, x.path = d
    rw [hd]
    rcases key _ w ho with ⟨⟨x, hmem, rfl⟩, hnr⟩ | hs
    · split
      · rename_i hl
        exact ⟨x, mem_keyed_reply (.inl ⟨hmem, by simpa [mem_removesAdj_iff, hl] using hnr⟩), rfl⟩
      · exact ⟨x, hmem, rfl⟩
    · obtain ⟨hl, x, hmem, hu, rfl⟩ := (keyed_mem_adjustSets a d).2.2.1 hs
      rw [if_pos hl]
      exact ⟨x, mem_keyed_reply (.inr ⟨hmem, hu⟩), rfl⟩

theorem replyHolds_updateAll (st st' p us) (rh : ReplyHolds st) (h : updateAll Quirks.fixed st p us = .ok st') :
    ReplyHolds st' := by
  obtain ⟨hk, _, hr⟩ := updateAll_frame _ st st' p us h
  -- updates set resource items only: the owner of a keyed item was there before
  have key : ∀ it w, (∀ r b, it ∉ resSetsWith r b) → st'.owners.owner (cidOf st'.kind) it = some w →
      st.owners.owner (cidOf st.kind) it = some w := by
    intro it w hnk ho
    rw [hk] at ho
    refine ((updateAll_ledgered st p us).inv st' h _ it w ho).resolve_right ?_
    rintro ⟨_, u, _, _, hm⟩
    unfold setsUpd at hm
    split at hm
    · exact hnk _ _ hm
    · cases hm
  constructor
  · intro d w ho
    rw [hr]
    exact rh.mounts d w (key _ w (fun r b => (keyed_not_mem_resSetsWith r b d).1) ho)
  · intro n w ho
    rw [hr]
    exact rh.env n w (key _ w (fun r b => (keyed_not_mem_resSetsWith r b n).2.1) ho)
  · intro d w ho
    rw [hr]
    exact rh.devices d w (key _ w (fun r b => (keyed_not_mem_resSetsWith r b d).2.2) ho)

theorem replyHolds_apply (st st' p r) (rh : ReplyHolds st) (h : apply Quirks.fixed st p r = .ok st') :
    ReplyHolds st' := by
  obtain ⟨st1, h1, h2⟩ := (bind_eq_ok _ _ _).1 (apply_eq _ st p r ▸ h)
  refine replyHolds_updateAll st1 st' p r.updates ?_ h2
  cases ha : adjustFor st.kind r with
  | none => rw [ha] at h1; cases h1; exact rh
  | some a => rw [ha] at h1; exact replyHolds_adjust st st1 p a rh h1

theorem replyHolds_fresh (st : State) (h : st.owners = []) : ReplyHolds st := by
  constructor <;> (intro d w ho; rw [h] at ho; cases ho)

/-- the model's ledger is covered by an abstract owned-set -/
def AbsRel (st : State) (owned : List (Cid × Item)) : Prop :=
  ∀ c it w, st.owners.owner c it = some w → (c, it) ∈ owned

theorem absRel_fresh (st : State) (owned : List (Cid × Item)) (h : st.owners = []) : AbsRel st owned := by
  intro c it w ho; rw [h] at ho; cases ho

abbrev pairs (u : Update) : List (Cid × Item) := (setsUpd u).map fun it => (u.containerId, it)

theorem adjust_ok_of (q : Quirks) (st : State) (p : Plugin) (a : Adjustment) (hnd : (adjustSets a).Nodup)
    (hfree : ∀ it ∈ adjustSets a, st.owners.owner (cidOf st.kind) it = none ∨ it ∈ adjustClears q st a) :
    ∃ st', adjust q st p (some a) = .ok st' := by
  obtain ⟨o, ho⟩ := (claimAll_ok_iff (cidOf st.kind) p
    (clearAll st.owners (cidOf st.kind) (adjustClears q st a)) (adjustSets a)).2
    ⟨fun it hm => by
      rw [owner_clearAll]
      split
      · rfl
      · rename_i hn
        exact (hfree it hm).resolve_right fun h => hn ⟨rfl, h⟩,
    hnd⟩
  exact ⟨_, (adjust_ok_iff _ st _ p a).2 ⟨o, ho, rfl⟩⟩

theorem adjust_abs (st : State) (p : Plugin) (a : Adjustment) (owned : List (Cid × Item))
    (rh : ReplyHolds st) (har : AbsRel st owned) (hnd : (adjustSets a).Nodup)
    (hfree : ∀ it ∈ adjustSets a, (cidOf st.kind, it) ∈ owned → it ∈ removesAdj a) :
    ∃ st', adjust Quirks.fixed st p (some a) = .ok st' ∧
      AbsRel st' (owned.filter (fun x => !((removesAdj a).map fun it => (cidOf st.kind, it)).contains x) ++
        (adjustSets a).map fun it => (cidOf st.kind, it)) := by
  obtain ⟨st', h⟩ := adjust_ok_of _ st p a hnd fun it hm => by
    cases ho : st.owners.owner (cidOf st.kind) it with
    | none => exact .inl rfl
    | some w => exact .inr (clears_effective st a rh it w ho (hfree it hm (har _ _ w ho)))
  refine ⟨st', h, fun c it w ho => ?_⟩
  rcases adjust_owner_origin _ st st' p a h c it w ho with ⟨h1, h2⟩ | ⟨rfl, hm, _⟩
  · refine List.mem_append_left _ (List.mem_filter.2 ⟨har c it w h1, ?_⟩)
    simp only [List.contains_eq_mem, List.mem_map, Prod.mk.injEq, Bool.not_eq_true', decide_eq_false_iff_not]
    rintro ⟨it', hr, rfl, rfl⟩
    exact h2.elim (· rfl) (· (clears_effective st a rh it' w h1 hr))
  · exact List.mem_append_right _ (List.mem_map.2 ⟨it, hm, rfl⟩)

theorem update1_abs (st : State) (p : Plugin) (u : Update) (acc : List (Cid × Item)) (har : AbsRel st acc)
    (hns : st.kind ≠ .create u.containerId) (hnd : (setsUpd u).Nodup)
    (hfree : ∀ it ∈ setsUpd u, (u.containerId, it) ∉ acc) :
    ∃ st', update1 Quirks.fixed st p u = .ok st' ∧ AbsRel st' (acc ++ pairs u) := by
  obtain ⟨o, hco⟩ := (claimAll_ok_iff u.containerId p st.owners (setsUpd u)).2
    ⟨fun it hm => by
      cases ho : st.owners.owner u.containerId it with
      | none => rfl
      | some w => exact absurd (har _ _ w ho) (hfree it hm),
    hnd⟩
  cases h : update1 Quirks.fixed st p u with
  | error e =>
    rcases (update1_fixed_error st p u e).1 h with ⟨hk, _⟩ | ⟨_, _, he⟩
    · exact absurd hk hns
    · rw [hco] at he; cases he
  | ok st' =>
    refine ⟨st', rfl, fun c it w ho => ?_⟩
    rcases (update1_ledgered st p u).inv st' h c it w ho with h1 | ⟨_, rfl, hm⟩
    · exact List.mem_append_left _ (har c it w h1)
    · exact List.mem_append_right _ (List.mem_map.2 ⟨it, hm, rfl⟩)

theorem updateAll_abs (us : List Update) :
    ∀ (st : State) (p : Plugin) (acc : List (Cid × Item)), AbsRel st acc →
      (∀ u ∈ us, st.kind ≠ .create u.containerId) →
      (us.flatMap pairs).Nodup → (∀ x ∈ us.flatMap pairs, x ∉ acc) →
      ∃ st', updateAll Quirks.fixed st p us = .ok st' ∧ AbsRel st' (acc ++ us.flatMap pairs) := by
  induction us with
  | nil => intro st p acc har _ _ _; exact ⟨st, rfl, by simpa using har⟩
  | cons u rest ih =>
    intro st p acc har hns hnd hfree
    simp only [List.flatMap_cons] at hnd hfree
    obtain ⟨hnd1, hnd2, hdisj⟩ := List.nodup_append.1 hnd
    obtain ⟨st1, h1, har1⟩ := update1_abs st p u acc har (hns u List.mem_cons_self) (hnd1.of_map _ fun _ _ hne h => hne (congrArg _ h))
      fun it hm => hfree _ (List.mem_append_left _ (List.mem_map.2 ⟨it, hm, rfl⟩))
    obtain ⟨st', h2, har'⟩ := ih st1 p (acc ++ pairs u) har1
      (fun u' hu' => by rw [update1_kind _ st st1 p u h1]; exact hns u' (List.mem_cons_of_mem _ hu'))
      hnd2
      (fun x hx hacc => (List.mem_append.1 hacc).elim (hfree x (List.mem_append_right _ hx)) (hdisj x · x hx rfl))
    exact ⟨st', by rw [updateAll_cons, h1]; exact h2, by simpa [List.append_assoc] using har'⟩

theorem allSets_create (id : Cid) (r : Response) (a : Adjustment) (ha : r.adjust = some a) :
    allSets (.create id) r = (adjustSets a).map (fun it => (id, it)) ++ r.updates.flatMap pairs := by
  unfold allSets; simp only [ha, setsAdj]

theorem allSets_eq (k : Kind) (r : Response) : allSets k r =
    (match adjustFor k r with | some a => (adjustSets a).map fun it => (cidOf k, it) | none => []) ++
      r.updates.flatMap pairs := by
  cases k <;> cases h : r.adjust <;> simp [allSets, adjustFor, h, setsAdj, cidOf]

theorem allRemoves_eq (k : Kind) (r : Response) : allRemoves k r =
    match adjustFor k r with | some a => (removesAdj a).map fun it => (cidOf k, it) | none => [] := by
  cases k <;> cases h : r.adjust <;> simp [allRemoves, adjustFor, h, cidOf]

theorem absStep_some (k : Kind) (owned owned' : List (Cid × Item)) (r : Response)
    (h : absStep k owned r = some owned') :
    (∀ u ∈ r.updates, k ≠ .create u.containerId) ∧ (allSets k r).Nodup ∧
    (∀ x ∈ allSets k r, x ∈ owned → x ∈ allRemoves k r) ∧
    owned' = owned.filter (fun x => !(allRemoves k r).contains x) ++ allSets k r := by
  unfold absStep at h
  split at h
  · cases h
  rename_i hself
  simp only [] at h
  split at h
  · cases h
  rename_i hnd
  split at h
  · cases h
  rename_i hany
  cases h
  refine ⟨fun u hu hk => hself ?_, by simpa using hnd, fun x hx ho => Classical.byContradiction fun hr => hany ?_, rfl⟩
  · subst hk
    simpa [selfUpdates] using ⟨u, hu, rfl⟩
  · exact List.any_eq_true.2 ⟨x, hx, by simpa using ⟨ho, hr⟩⟩

/-- one response: the abstract ledger accepts ⇒ the model accepts, and stays covered -/
theorem apply_abs (st : State) (p : Plugin) (r : Response) (owned owned' : List (Cid × Item))
    (rh : ReplyHolds st) (har : AbsRel st owned) (h : absStep st.kind owned r = some owned') :
    ∃ st', apply Quirks.fixed st p r = .ok st' ∧ AbsRel st' owned' := by
  obtain ⟨hns, hnd, hfree, rfl⟩ := absStep_some _ _ _ _ h
  rw [allSets_eq] at hnd hfree ⊢
  rw [allRemoves_eq] at hfree ⊢
  obtain ⟨hndA, hndU, hdisj⟩ := List.nodup_append.1 hnd
  -- the adjustment, if there is one, is accepted and leaves the ledger covered
  obtain ⟨st1, h1, hk1, har1⟩ : ∃ st1, adjust Quirks.fixed st p (adjustFor st.kind r) = .ok st1 ∧ st1.kind = st.kind ∧
      AbsRel st1 (owned.filter (fun x =>
          !(match adjustFor st.kind r with | some a => (removesAdj a).map fun it => (cidOf st.kind, it) | none => []).contains x) ++
        match adjustFor st.kind r with | some a => (adjustSets a).map fun it => (cidOf st.kind, it) | none => []) := by
    cases ha : adjustFor st.kind r with
    | none => exact ⟨st, rfl, rfl, fun c it w ho => by simpa using har c it w ho⟩
    | some a =>
      simp only [ha] at hndA hfree
      obtain ⟨st1, h1, har1⟩ := adjust_abs st p a owned rh har (hndA.of_map _ fun _ _ hne h => hne (congrArg _ h))
        fun it hm ho => by
          have := hfree _ (List.mem_append_left _ (List.mem_map.2 ⟨it, hm, rfl⟩)) ho
          simpa using this
      exact ⟨st1, h1, adjust_kind _ st st1 p _ h1, har1⟩
  obtain ⟨st', h2, har'⟩ := updateAll_abs r.updates st1 p _ har1 (by rw [hk1]; exact hns) hndU
    fun x hx hacc => (List.mem_append.1 hacc).elim
      (fun hacc => by
        obtain ⟨ho, hnr⟩ := List.mem_filter.1 hacc
        have := hfree x (List.mem_append_right _ hx) ho
        simp [this] at hnr)
      (hdisj x · x hx rfl)
  exact ⟨st', by rw [apply_eq, h1]; exact h2, by simpa [List.append_assoc] using har'⟩

/-- chains in which every plugin answers -/
def answeredAll (rs : List (Plugin × Response)) : List (Plugin × Option Response) :=
  rs.map fun (p, r) => (p, some r)

theorem run_abs (rs : List (Plugin × Response)) :
    ∀ (st : State) (owned owned' : List (Cid × Item)), ReplyHolds st → AbsRel st owned →
      absRun st.kind owned rs = some owned' →
      ∃ st', run Quirks.fixed st (answeredAll rs) = .ok st' ∧ AbsRel st' owned' ∧ ReplyHolds st' := by
  induction rs with
  | nil =>
    intro st owned owned' rh har h
    cases h
    exact ⟨st, rfl, har, rh⟩
  | cons x rest ih =>
    intro st owned owned' rh har h
    obtain ⟨p, r⟩ := x
    simp only [absRun] at h
    cases hs : absStep st.kind owned r with
    | none => rw [hs] at h; cases h
    | some owned1 =>
      rw [hs] at h
      obtain ⟨st1, ha, har1⟩ := apply_abs st p r owned owned1 rh har hs
      have hk := apply_kind _ st st1 p r ha
      obtain ⟨st', hr, har', rh'⟩ := ih st1 owned1 owned' (replyHolds_apply st st1 p r rh ha) har1 (by rw [hk]; exact h)
      exact ⟨st', by simp only [answeredAll, List.map_cons, run, ha]; exact hr, har', rh'⟩

end Nri.Result
