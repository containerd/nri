/-
Lemmas about the update list the result.go model collects (`State.updates`, `State.own`):
which targets have an entry, that there is one entry per target, and that the entry of the
container being updated is kept apart.
-/
import NriModel.Lemmas.ResultSteps

namespace Nri.Result
open Nri.NApi Nri.Ledger

def ids (l : List Update) : List Cid := l.map (·.containerId)

/-- the target containers a chain's update lists mention -/
def touched : List (Plugin × Option Response) → List Cid
  | [] => []
  | (_, none) :: rest => touched rest
  | (_, some r) :: rest => ids r.updates ++ touched rest

structure UpdWF (st : State) : Prop where
  nodup : (ids st.updates).Nodup
  third : ∀ id ∈ ids st.updates, isOwn st.kind id = false
  own : ∀ e, st.own = some e → isOwn st.kind e.containerId = true

/-- From `st` to `st'` the collected update list gains entries for exactly the targets `l`:
    one in `updates` for each container other than the one being updated, `own` for that one. -/
structure Entries (l : List Cid) (st st' : State) : Prop where
  kind : st'.kind = st.kind
  wf : UpdWF st → UpdWF st'
  ids : ∀ id, id ∈ ids st'.updates ↔ id ∈ ids st.updates ∨ (id ∈ l ∧ isOwn st.kind id = false)
  own : st'.own.isSome = true ↔ st.own.isSome = true ∨ ∃ id ∈ l, isOwn st.kind id = true

theorem Entries.refl (st : State) : Entries [] st st :=
  ⟨rfl, id, by simp, by simp⟩

theorem Entries.trans {l₁ l₂ st st₁ st'} (h₁ : Entries l₁ st st₁) (h₂ : Entries l₂ st₁ st') :
    Entries (l₁ ++ l₂) st st' where
  kind := h₂.kind.trans h₁.kind
  wf := h₂.wf ∘ h₁.wf
  ids id := by
    simp only [h₂.ids, h₁.ids, h₁.kind, List.mem_append, or_and_right, or_assoc]
  own := by
    simp only [h₂.own, h₁.own, h₁.kind, List.mem_append, or_and_right, exists_or, or_assoc]

/-- `Entries` looks at a state through its kind, the targets of `updates` and the target of `own` -/
theorem Entries.congr {l st st₁ st'} (h : Entries l st st₁) (hk : st'.kind = st₁.kind)
    (hi : Nri.Result.ids st'.updates = Nri.Result.ids st₁.updates)
    (ho : st'.own.map (·.containerId) = st₁.own.map (·.containerId)) : Entries l st st' where
  kind := hk.trans h.kind
  wf wf := by
    have wf₁ := h.wf wf
    refine ⟨hi ▸ wf₁.nodup, by rw [hi, hk]; exact wf₁.third, fun e he => ?_⟩
    rw [he] at ho
    cases h₁ : st₁.own with
    | none => rw [h₁] at ho; cases ho
    | some e₁ =>
      rw [h₁] at ho
      have : e.containerId = e₁.containerId := Option.some.inj ho
      rw [hk, this]
      exact wf₁.own e₁ h₁
  ids id := by rw [hi]; exact h.ids id
  own := by rw [← h.own, ← Option.isSome_map, ho, Option.isSome_map]

theorem adjust_updates (q st st' p a) (h : adjust q st p a = .ok st') :
    st'.updates = st.updates ∧ st'.own = st.own := by
  cases a with
  | none => cases h; exact ⟨rfl, rfl⟩
  | some a =>
    obtain ⟨o, _, rfl⟩ := (adjust_ok_iff q st st' p a).1 h
    rw [adjustData_frame]; exact ⟨rfl, rfl⟩

theorem ids_map_keep (l : List Update) (f : Update → Update) (hf : ∀ e, (f e).containerId = e.containerId) :
    ids (l.map f) = ids l := by
  unfold ids; rw [List.map_map]; congr 1; funext e; exact hf e

theorem updData_ids (q st u) :
    ids (updData q st u).updates = ids st.updates ∧
    ((updData q st u).own.map (·.containerId)) = st.own.map (·.containerId) := by
  unfold updData setEntryRes
  split
  · exact ⟨rfl, rfl⟩
  split
  · exact ⟨rfl, by cases st.own <;> rfl⟩
  · exact ⟨ids_map_keep _ _ fun e => by split <;> rfl, rfl⟩

theorem getUpdate_entries (q st st1 p u) (h : getUpdate q st p u = .ok st1) :
    Entries [u.containerId] st st1 := by
  have hg := ((getUpdate_ok_iff q st st1 p u).1 h).2
  unfold getUpdate.go at hg
  cases hown : isOwn st.kind u.containerId with
  | true =>
    rw [if_pos hown] at hg
    -- the entry of the container being updated: kept with its target, or made for `u`'s
    have key : st1.kind = st.kind ∧ st1.updates = st.updates ∧
        ∃ e, st1.own = some e ∧ (UpdWF st → isOwn st.kind e.containerId = true) := by
      cases ho : st.own with
      | none => rw [ho] at hg; cases hg; exact ⟨rfl, rfl, _, rfl, fun _ => by split <;> exact hown⟩
      | some e => rw [ho] at hg; cases hg; exact ⟨rfl, rfl, _, rfl, fun wf => wf.own e ho⟩
    obtain ⟨hk, hu, e, he, hwf⟩ := key
    refine ⟨hk, fun wf => ⟨hu ▸ wf.nodup, by rw [hu, hk]; exact wf.third, fun e' he' => ?_⟩, ?_, ?_⟩
    · rw [he] at he'; cases he'; rw [hk]; exact hwf wf
    · simp [hu, hown]
    · simp [he, hown]
  | false =>
    rw [if_neg (by rw [hown]; exact Bool.false_ne_true)] at hg
    -- the entry of another container: found, or appended
    have key : st1.kind = st.kind ∧ st1.own = st.own ∧
        (ids st1.updates = ids st.updates ∧ u.containerId ∈ ids st.updates ∨
         ids st1.updates = ids st.updates ++ [u.containerId] ∧ u.containerId ∉ ids st.updates) := by
      have hmem : st.updates.any (fun e => e.containerId = u.containerId) = true ↔ u.containerId ∈ ids st.updates := by
        simp [ids]
      cases hany : st.updates.any (fun e => e.containerId = u.containerId) <;> rw [hany] at hg hmem <;> cases hg
      · exact ⟨rfl, rfl, .inr ⟨by simp [ids, emptyUpdate], fun hm => nomatch hmem.2 hm⟩⟩
      · exact ⟨rfl, rfl, .inl ⟨ids_map_keep _ _ fun e => by split <;> rfl, hmem.1 rfl⟩⟩
    obtain ⟨hk, ho, hu⟩ := key
    refine ⟨hk, fun wf => ⟨?_, fun id hid => ?_, fun e he => by rw [hk]; exact wf.own e (ho ▸ he)⟩, fun id => ?_, ?_⟩
    · rcases hu with ⟨hu, _⟩ | ⟨hu, hn⟩ <;> rw [hu]
      · exact wf.nodup
      · exact List.nodup_append.2 ⟨wf.nodup, by simp, by simp; exact fun a ha heq => hn (heq ▸ ha)⟩
    · rw [hk]
      rcases hu with ⟨hu, _⟩ | ⟨hu, _⟩ <;> rw [hu] at hid
      · exact wf.third id hid
      · rcases List.mem_append.1 hid with h3 | h3
        · exact wf.third id h3
        · simp at h3; subst h3; exact hown
    · rcases hu with ⟨hu, hm⟩ | ⟨hu, _⟩ <;> rw [hu]
      · simp only [List.mem_singleton]
        exact ⟨.inl, fun h => h.elim (fun h => h) fun ⟨h, _⟩ => h ▸ hm⟩
      · simp only [List.mem_append, List.mem_singleton]
        exact or_congr_right ⟨fun h => ⟨h, h ▸ hown⟩, (·.1)⟩
    · simp [ho, hown]

theorem update1_entries (q st st' p u) (h : update1 q st p u = .ok st') : Entries [u.containerId] st st' := by
  obtain ⟨st1, r, hg, _, hs⟩ := update1_ok q st st' p u h
  refine (getUpdate_entries q st st1 p u hg).congr ?_ ?_ ?_
  · exact (update1_kind q st st' p u h).trans (getUpdate_owners q st st1 p u hg).2.symm
  · rcases hs with ⟨_, hs⟩ | ⟨_, _, _, hs⟩ <;> rw [hs]
    exact (updData_ids q st1 u).1
  · rcases hs with ⟨_, hs⟩ | ⟨_, _, _, hs⟩ <;> rw [hs]
    exact (updData_ids q st1 u).2

theorem updateAll_entries (q st st' p us) (h : updateAll q st p us = .ok st') : Entries (ids us) st st' := by
  induction us generalizing st with
  | nil => cases h; exact .refl _
  | cons u rest ih =>
    obtain ⟨st1, h1, h2⟩ := (bind_eq_ok _ _ _).1 (updateAll_cons q st p u rest ▸ h)
    exact (update1_entries q st st1 p u h1).trans (ih st1 h2)

theorem apply_entries (q st st' p r) (h : apply q st p r = .ok st') : Entries (ids r.updates) st st' := by
  obtain ⟨st1, h1, h2⟩ := (bind_eq_ok _ _ _).1 (apply_eq q st p r ▸ h)
  obtain ⟨hu, ho⟩ := adjust_updates q st st1 p _ h1
  exact ((Entries.refl st).congr (adjust_kind q st st1 p _ h1) (by rw [hu]) (by rw [ho])).trans
    (updateAll_entries q st1 st' p r.updates h2)

theorem run_entries (q st st' rs) (h : run q st rs = .ok st') (wf : UpdWF st) :
    UpdWF st' ∧
    (∀ id, id ∈ ids st'.updates ↔ id ∈ ids st.updates ∨ (id ∈ touched rs ∧ isOwn st.kind id = false)) ∧
    (st'.own.isSome = true ↔ st.own.isSome = true ∨ ∃ id ∈ touched rs, isOwn st.kind id = true) := by
  suffices h : Entries (touched rs) st st' from ⟨h.wf wf, h.ids, h.own⟩
  clear wf
  induction rs generalizing st with
  | nil => cases h; exact .refl _
  | cons x rest ih =>
    obtain ⟨p, _ | r⟩ := x
    · exact ih st h
    · obtain ⟨st1, h1, h2⟩ := (bind_eq_ok _ _ _).1 (run_cons_some q st p r rest ▸ h)
      exact (apply_entries q st st1 p r h1).trans (ih st1 h2)

theorem updateAll_fails_of_self (q st p us id) (hk : st.kind = .create id) (u : Update) (hu : u ∈ us)
    (hid : u.containerId = id) : ∃ e, updateAll q st p us = .error e := by
  induction us generalizing st with
  | nil => cases hu
  | cons x rest ih =>
    rw [updateAll_cons]
    cases h1 : update1 q st p x with
    | error e => exact ⟨e, rfl⟩
    | ok st1 =>
      cases hu with
      | head =>
        obtain ⟨st0, _, hg, _⟩ := update1_ok q st st1 p u h1
        exact absurd (hk.trans (hid ▸ rfl)) ((getUpdate_ok_iff q st st0 p u).1 hg).1
      | tail _ hu' => exact ih st1 ((update1_kind q st st1 p x h1).trans hk) hu'

end Nri.Result
