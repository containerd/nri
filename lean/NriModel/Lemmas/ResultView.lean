/-
The container view the result.go model maintains is the NRI-level overlay specification
(`adjustData_view`, `apply_view_create`); updates leave it alone. First come two facts about keys
with and without the removal marker (`touched_contains`, `filter_map_comm`).
-/
import NriModel.Lemmas.ResultUpdates
import NriModel.Overlay

namespace Nri.Result
open Nri.NApi Nri.Ledger Nri.Overlay

theorem isMarked_unmarked (k : Str) (h : (isMarked k).2 = false) : (isMarked k).1 = k := by
  unfold isMarked at *
  split
  · rfl
  · rename_i c cs
    split
    · rename_i hc; simp [hc] at h
    · rfl

/-- an unmarked-form key is touched by a response iff it is removed or set by it -/
theorem touched_contains (keys : List Str) (d : Str) :
    (keys.map fun k => (isMarked k).1).contains d =
      ((delKeys keys).contains d || (keys.filter fun k => !(isMarked k).2).contains d) := by
  induction keys with
  | nil => rfl
  | cons k rest ih =>
    cases hm : isMarked k with
    | mk key m =>
      cases m with
      | true =>
        have : delKeys (k :: rest) = key :: delKeys rest := by
          simp [delKeys, hm]
        simp only [List.map_cons, List.contains_cons, hm, this, List.filter_cons, Bool.not_true,
          Bool.false_eq_true, ↓reduceIte, ih, Bool.or_assoc]
      | false =>
        have hk : key = k := by have := isMarked_unmarked k (by rw [hm]); rw [hm] at this; exact this
        have : delKeys (k :: rest) = delKeys rest := by
          simp [delKeys, hm]
        subst hk
        simp only [List.map_cons, List.contains_cons, hm, this, List.filter_cons, Bool.not_false,
          ↓reduceIte, ih]
        cases (d == key) <;> cases (delKeys rest).contains d <;> simp

theorem filter_map_comm {α : Type} (l : List α) (f : α → Str) :
    (l.filter fun x => !(isMarked (f x)).2).map f = (l.map f).filter fun k => !(isMarked k).2 := by
  induction l with
  | nil => rfl
  | cons x rest ih =>
    simp only [List.filter_cons, List.map_cons]
    cases (isMarked (f x)).2 <;> simp [ih]

theorem adjustData_view (st : State) (a : Adjustment) :
    (adjustData Quirks.fixed st a).view = overlayContainer st.view a := by
  -- both sides field by field: unfold the stages and the overlay (first two lines), compare the records
  cases h : a.hasLinux <;>
    simp only [adjustData, cdiData, rlimitData, deviceData, envData, mountData, annData, annViewDel, annSet, annDel_eq,
      argsData_eq, hooksData_eq, resData_eq, cgroupsData_eq, oomData_eq, overlayContainer, Quirks.fixed, h,
      ↓reduceIte, Bool.false_eq_true, Bool.false_and, Bool.true_and, Container.mk.injEq, true_and, and_true]
  -- what is left are the `match`es on `args`, `hooks` and `resources`, equal branch by branch
  · exact ⟨by cases a.args <;> rfl, by cases a.hooks <;> rfl, by cases a.resources <;> rfl⟩
  · exact ⟨by cases a.args <;> rfl, by cases a.hooks <;> rfl, by cases a.resources <;> rfl,
      by cases a.cgroupsPath <;> rfl⟩

theorem updateAll_view (q st st' p us) (h : updateAll q st p us = .ok st') :
    st'.view = st.view ∧ st'.reply = st.reply :=
  (updateAll_frame q st st' p us h).2

theorem apply_view_create (st st' p r id) (hk : st.kind = .create id)
    (h : apply Quirks.fixed st p r = .ok st') :
    st'.view = (match r.adjust with | some a => overlayContainer st.view a | none => st.view) := by
  obtain ⟨st1, h1, h2⟩ := (bind_eq_ok _ _ _).1 (apply_eq _ st p r ▸ h)
  rw [(updateAll_view _ st1 st' p r.updates h2).1]
  simp only [hk, adjustFor] at h1
  cases ha : r.adjust with
  | none => rw [ha] at h1; cases h1; rfl
  | some a =>
    rw [ha] at h1
    obtain ⟨o, _, rfl⟩ := (adjust_ok_iff _ st st1 p a).1 h1
    exact adjustData_view st a

end Nri.Result
