/-
Refinement of the state-free update walk (`Nri.UpdateWalk.walk`, the specification side of
the value clauses of C05 and C04) by the result.go model: facts about `claimedPrefix`, what one
`simUpdate` step does to `taken` and to the resources per target, and the exact ledger reached
by `claimAllPartial` (the claimed items are the walk's claimed prefix: those before the first
owned or repeated one).
-/
import NriModel.UpdateWalk
import NriModel.Lemmas.ResultAbs

namespace Nri

theorem find?_map_key {α κ : Type} [DecidableEq κ] (key : α → κ) (f : α → α) (hf : ∀ x, key (f x) = key x)
    (l : List α) (c : κ) :
    (l.map f).find? (fun x => key x = c) = (l.find? (fun x => key x = c)).map f := by
  have : ((fun x => decide (key x = c)) ∘ f) = fun x => decide (key x = c) := by
    funext x; simp [hf]
  rw [List.find?_map, this]

end Nri

namespace Nri.UpdateWalk
open Nri.NApi Nri.Result Nri.Ledger

theorem claimedPrefix_length_le (c : Cid) (its : List Item) :
    ∀ T, (claimedPrefix T c its).length ≤ its.length := by
  induction its with
  | nil => intro T; simp [claimedPrefix]
  | cons x rest ih =>
    intro T
    simp only [claimedPrefix]
    split
    · simp
    · simp only [List.length_cons]; have := ih ((c, x) :: T); omega

theorem claimedPrefix_eq_self_iff (c : Cid) (its : List Item) : ∀ T,
    ((claimedPrefix T c its).length = its.length → claimedPrefix T c its = its) ∧
    (claimedPrefix T c its = its ↔ its.Nodup ∧ ∀ it ∈ its, (c, it) ∉ T) := by
  induction its with
  | nil => intro T; simp [claimedPrefix]
  | cons x rest ih =>
    intro T
    obtain ⟨hfull, hiff⟩ := ih ((c, x) :: T)
    by_cases hx : (c, x) ∈ T
    · simp [claimedPrefix, hx]
    · simp only [claimedPrefix, List.contains_eq_mem, hx, decide_false, Bool.false_eq_true, ↓reduceIte,
        List.length_cons, Nat.add_right_cancel_iff, List.cons.injEq, true_and, hiff]
      refine ⟨fun h => hiff.1 (hfull h), ?_, ?_⟩
      · rintro ⟨hnd, hfree⟩
        refine ⟨List.nodup_cons.2 ⟨fun hm => hfree x hm List.mem_cons_self, hnd⟩, fun it hit => ?_⟩
        rcases List.mem_cons.1 hit with rfl | hit
        · exact hx
        · exact fun hm => hfree it hit (List.mem_cons_of_mem _ hm)
      · rintro ⟨hnd, hfree⟩
        obtain ⟨hxr, hnd⟩ := List.nodup_cons.1 hnd
        refine ⟨hnd, fun it hit hm => ?_⟩
        rcases List.mem_cons.1 hm with heq | hm
        · cases heq; exact hxr hit
        · exact hfree it (List.mem_cons_of_mem _ hit) hm

variable (base : Cid → Resources)

theorem get_of_absent (s : Sim) (c : Cid) (h : s.res.any (fun x => x.1 = c) = false) :
    s.get base c = base c := by
  unfold Sim.get
  rw [List.find?_eq_none.2 (List.any_eq_false.1 h)]

theorem get_put (s : Sim) (c c' : Cid) (r : Resources) :
    (s.put c r).get base c' = if c' = c then r else s.get base c' := by
  unfold Sim.put
  split
  · -- `c` is present: its pair is replaced in place
    rename_i hany
    unfold Sim.get
    rw [find?_map_key Prod.fst _ (fun x => by split <;> simp [*])]
    cases hf : s.res.find? (fun x => x.1 = c') with
    | none =>
      have hne : c' ≠ c := by
        rintro rfl
        rw [List.any_eq_false.2 (List.find?_eq_none.1 hf)] at hany
        cases hany
      simp [hne]
    | some x =>
      have hx : x.1 = c' := by simpa using List.find?_some hf
      by_cases hc : c' = c <;> simp [hx, hc]
  · -- `c` is absent: its pair is appended
    rename_i hany
    have hnone := List.find?_eq_none.2 (List.any_eq_false.1 (Bool.eq_false_iff.2 hany))
    unfold Sim.get
    simp only [List.find?_append]
    by_cases hc : c' = c
    · subst hc
      simp [hnone]
    · cases s.res.find? (fun x => x.1 = c') <;> simp [hc, Ne.symm hc]

theorem taken_put (s : Sim) (c : Cid) (r : Resources) : (s.put c r).taken = s.taken := by
  unfold Sim.put; split <;> rfl

/-- the state after the "first mention" step of `simUpdate` -/
def ensure (s : Sim) (c : Cid) : Sim :=
  if s.res.any (fun x => x.1 = c) then s else s.put c (base c)

theorem ensure_taken (s c) : (ensure base s c).taken = s.taken := by
  unfold ensure; split
  · rfl
  · exact taken_put _ _ _

theorem ensure_get (s : Sim) (c c' : Cid) :
    (ensure base s c).get base c' = s.get base c' := by
  unfold ensure
  split
  · rfl
  · rename_i hany
    rw [get_put]
    split
    · rename_i hc
      rw [hc, get_of_absent base s c (Bool.eq_false_iff.2 hany)]
    · rfl

/-- the items of `u` before the first taken or repeated one -/
def freeOf (s : Sim) (u : Update) : List Item := claimedPrefix s.taken u.containerId (setsUpd u)

/-- the walk overlays `u` on its target -/
def applies (s : Sim) (u : Update) : Bool :=
  match u.resources with
  | none => false
  | some _ => (freeOf s u).length == (setsUpd u).length

def overlayUpd (acc : Resources) (u : Update) : Resources :=
  match u.resources with
  | some r => overlayRes acc r r.pids
  | none => acc

theorem applies_spec (s : Sim) (u : Update) (h : applies s u = true) :
    (∃ r, u.resources = some r) ∧ freeOf s u = setsUpd u ∧ (setsUpd u).Nodup ∧
    ∀ it ∈ setsUpd u, (u.containerId, it) ∉ s.taken := by
  obtain ⟨hfull, hiff⟩ := claimedPrefix_eq_self_iff u.containerId (setsUpd u) s.taken
  unfold applies at h
  cases hr : u.resources with
  | none => rw [hr] at h; cases h
  | some r =>
    rw [hr] at h
    have heq : freeOf s u = setsUpd u := hfull (of_decide_eq_true h)
    exact ⟨⟨r, rfl⟩, heq, hiff.1 heq⟩

/-- One step of the walk: the target is entered with its base at first mention, an applied update is
    overlaid on it, and the claimed prefix of the update's items is taken either way. -/
theorem simUpdate_eq (s : Sim) (u : Update) :
    simUpdate base s u =
      { (if applies s u then
          (ensure base s u.containerId).put u.containerId (overlayUpd (s.get base u.containerId) u)
        else ensure base s u.containerId) with
        taken := s.taken ++ (freeOf s u).map fun it => (u.containerId, it) } := by
  have ht := ensure_taken base s u.containerId
  have hg := ensure_get base s u.containerId u.containerId
  unfold ensure at ht hg ⊢
  unfold simUpdate
  generalize (if s.res.any (fun x => x.1 = u.containerId) then s
    else s.put u.containerId (base u.containerId)) = s1 at ht hg ⊢
  unfold applies overlayUpd freeOf
  cases hr : u.resources with
  | none =>
    simp only [setsUpd, hr, claimedPrefix, List.map_nil, List.append_nil, Bool.false_eq_true, ↓reduceIte, ← ht]
  | some r =>
    simp only [ht, hg]
    split
    · rename_i hlen
      rw [(claimedPrefix_eq_self_iff _ _ _).1 (by simpa using hlen)]
    · rfl

theorem simUpdate_taken (s) (u : Update) (c : Cid) (it : Item) :
    (c, it) ∈ (simUpdate base s u).taken ↔ (c, it) ∈ s.taken ∨ (c = u.containerId ∧ it ∈ freeOf s u) := by
  rw [simUpdate_eq]
  simp only [List.mem_append, List.mem_map, Prod.mk.injEq]
  constructor
  · rintro (h | ⟨x, hx, rfl, rfl⟩)
    · exact .inl h
    · exact .inr ⟨rfl, hx⟩
  · rintro (h | ⟨rfl, hx⟩)
    · exact .inl h
    · exact .inr ⟨it, hx, rfl, rfl⟩

theorem simUpdate_get (s : Sim) (u : Update) (c : Cid) :
    (simUpdate base s u).get base c =
      if applies s u = true ∧ c = u.containerId then overlayUpd (s.get base c) u else s.get base c := by
  rw [simUpdate_eq]
  show (if applies s u then _ else _ : Sim).get base c = _
  cases applies s u with
  | false => simp [ensure_get]
  | true =>
    simp only [↓reduceIte, get_put, ensure_get, true_and]
    split
    · rename_i hc; rw [hc]
    · rfl

end Nri.UpdateWalk

namespace Nri.Result
open Nri.NApi Nri.Ledger Nri.UpdateWalk

/-- `claimAllPartial` claims exactly the walk's claimed prefix — the items before the first one
    that has an owner or was named earlier in the list — and reports no error exactly when
    that is all of them; for any taken-set `T` that agrees with the ledger on the target. -/
theorem claimAllPartial_spec (c : Cid) (p : Plugin) (its : List Item) :
    ∀ (o : Owners) (T : List (Cid × Item)), (∀ it, (c, it) ∈ T ↔ (o.owner c it).isSome = true) →
      (((claimAllPartial c p o its).2 = none ↔ (claimedPrefix T c its).length = its.length) ∧
       ∀ c' it', ((claimAllPartial c p o its).1.owner c' it').isSome = true ↔
          ((o.owner c' it').isSome = true ∨ (c' = c ∧ it' ∈ claimedPrefix T c its))) := by
  induction its with
  | nil => intro o T _; simp [claimAllPartial, claimedPrefix]
  | cons x rest ih =>
    intro o T hT
    cases ho : o.owner c x with
    | some q =>
      have hc : claim o c x p = .error (.conflict c x p q) := by unfold claim; rw [ho]
      have hx : (c, x) ∈ T := (hT x).2 (by rw [ho]; rfl)
      simp [claimAllPartial, hc, claimedPrefix, hx]
    | none =>
      have hc : claim o c x p = .ok (AList.insert o (c, x) p) := (claim_ok_iff _ _ _ _ _).2 ⟨ho, rfl⟩
      have hx : (c, x) ∉ T := fun h => by have := (hT x).1 h; rw [ho] at this; cases this
      obtain ⟨ih1, ih2⟩ := ih (AList.insert o (c, x) p) ((c, x) :: T) (fun it => by
        rw [owner_insert_isSome, ← hT it]; simp)
      simp only [claimAllPartial, hc, claimedPrefix, List.contains_eq_mem, hx, decide_false, Bool.false_eq_true,
        ↓reduceIte, List.length_cons, Nat.add_right_cancel_iff, List.mem_cons]
      refine ⟨ih1, fun c' it' => ?_⟩
      rw [ih2 c' it', owner_insert_isSome]
      simp only [and_or_left, or_assoc, or_left_comm]

end Nri.Result
