/-
The refinement relation between the result.go model and the update walk, and its
preservation by `getUpdate`, `setEntryRes`, `update1`, `updateAll`, `adjust`, `apply`, `run`:

* `Rel.taken` — a `(target, item)` pair is taken in the walk iff it has an owner in the
  model's ledger (for every target other than the container being created, whose items the
  creation adjustment claims and releases as well);
* `Rel.vals`  — the resources the walk holds for a target are the resources `updateResources`
  would start from in the model (`updBase`);
* `EntOK`     — every collected entry carries exactly `updBase` of its target.

No hypothesis on the chain: an update naming an item twice is handled by the walk as by the
ledger (the second mention collides with the first).

The end of the file is about chains in which some plugins do not answer (`answered` strips
them) and the state in which plugin `i` is called (`viewsAlong_run`); C04 and C05 state their
chain-level theorems through these.
-/
import NriModel.Lemmas.ResultWalk

namespace Nri.Result
open Nri.NApi Nri.Ledger Nri.UpdateWalk

theorem isOwn_eq_true (k : Kind) (id : Cid) : isOwn k id = true ↔ k = .update id := by
  cases k <;> simp [isOwn]

/-- every collected entry carries the current resources of its target -/
structure EntOK (st : State) : Prop where
  third : ∀ e ∈ st.updates, isOwn st.kind e.containerId = false ∧ e.resources = some (updBase st e.containerId)
  own : ∀ e, st.own = some e → isOwn st.kind e.containerId = true ∧ e.resources = some st.reqRes

structure Rel (base : Cid → Resources) (st : State) (s : Sim) : Prop where
  taken : ∀ c it, st.kind ≠ .create c → ((c, it) ∈ s.taken ↔ (st.owners.owner c it).isSome = true)
  vals : ∀ c, s.get base c = updBase st c

theorem map_entries_walk (st : State) (f : Update → Update) (hc : ∀ e, (f e).containerId = e.containerId)
    (hr : ∀ e, (f e).resources = e.resources) (ok : EntOK st) :
    (∀ c, updBase { st with updates := st.updates.map f } c = updBase st c) ∧
    EntOK { st with updates := st.updates.map f } := by
  have hub : ∀ c, updBase { st with updates := st.updates.map f } c = updBase st c := by
    intro c
    unfold updBase
    simp only [find?_map_key Update.containerId f hc]
    cases st.updates.find? (fun e => e.containerId = c) <;> simp [hr]
  refine ⟨hub, ?_, ok.own⟩
  intro e' he'
  obtain ⟨e, he, rfl⟩ := List.mem_map.1 he'
  rw [hc, hr, hub]
  exact ok.third e he

/-- `getContainerUpdate` changes no value -/
theorem getUpdate_walk (st st1 : State) (p : Plugin) (u : Update)
    (h : getUpdate Quirks.fixed st p u = .ok st1) (ok : EntOK st) :
    st.kind ≠ .create u.containerId ∧ ((∀ c, updBase st1 c = updBase st c) ∧ EntOK st1) ∧
    (isOwn st.kind u.containerId = false → ∃ e ∈ st1.updates, e.containerId = u.containerId) := by
  obtain ⟨hnc, hgo⟩ := (getUpdate_ok_iff _ st st1 p u).1 h
  refine ⟨hnc, ?_⟩
  unfold getUpdate.go at hgo
  cases hown : isOwn st.kind u.containerId with
  | true =>
    -- the own entry, which `updBase` does not read
    simp only [hown, ↓reduceIte] at hgo
    split at hgo
    · rename_i e0 he0
      cases hgo
      exact ⟨⟨fun _ => rfl, ok.third, fun e he => by cases he; exact ok.own e0 he0⟩, fun h => by cases h⟩
    · cases hgo
      exact ⟨⟨fun _ => rfl, ok.third, fun e he => by cases he; exact ⟨hown, rfl⟩⟩, fun h => by cases h⟩
  | false =>
    simp only [hown, Bool.false_eq_true, ↓reduceIte] at hgo
    split at hgo
    · -- the target has an entry: only its ignore flag changes
      rename_i hany
      cases hgo
      refine ⟨map_entries_walk st _ (fun e => by split <;> rfl) (fun e => by split <;> rfl) ok, fun _ => ?_⟩
      obtain ⟨e, he, heq⟩ := List.any_eq_true.1 hany
      have heq := of_decide_eq_true heq
      exact ⟨_, List.mem_map.2 ⟨e, he, rfl⟩, by rw [if_pos heq]; exact heq⟩
    · -- a new entry, carrying what `updBase` yields for a target without one
      rename_i hany
      cases hgo
      have hnone : st.updates.find? (fun e => e.containerId = u.containerId) = none :=
        List.find?_eq_none.2 (List.any_eq_false.1 (Bool.eq_false_iff.2 hany))
      have hub : ∀ c, updBase { st with updates := st.updates ++ [emptyUpdate u.containerId u.ignoreFailure] } c =
          updBase st c := by
        intro c
        unfold updBase
        simp only [List.find?_append]
        cases st.updates.find? (fun e => e.containerId = c) with
        | some e => rfl
        | none => by_cases hc : u.containerId = c <;> simp [emptyUpdate, hc]
      refine ⟨⟨hub, fun e' he' => ?_, ok.own⟩, fun _ => ⟨_, List.mem_append_right _ (List.mem_singleton.2 rfl), rfl⟩⟩
      rw [hub]
      rcases List.mem_append.1 he' with he | he
      · exact ok.third e' he
      · cases List.mem_singleton.1 he
        refine ⟨hown, ?_⟩
        simp only [emptyUpdate]
        unfold updBase
        simp only [hown, Bool.false_eq_true, ↓reduceIte, hnone]

theorem setEntryRes_walk (st : State) (id : Cid) (res : Resources) (ok : EntOK st)
    (hex : isOwn st.kind id = false → ∃ e ∈ st.updates, e.containerId = id) :
    (∀ c, updBase (setEntryRes st id res) c = if c = id then res else updBase st c) ∧
    EntOK (setEntryRes st id res) := by
  unfold setEntryRes
  cases hown : isOwn st.kind id with
  | true =>
    -- the container being updated: `reqRes` and the own entry
    simp only [↓reduceIte]
    have hub : ∀ c, updBase { st with own := st.own.map fun e => { e with resources := some res }, reqRes := res } c =
        if c = id then res else updBase st c := by
      intro c
      have hk := (isOwn_eq_true _ _).1 hown
      by_cases hc : c = id
      · simp [updBase, hk, isOwn, hc]
      · simp [updBase, hk, isOwn, hc, Ne.symm hc]
    refine ⟨hub, ⟨fun e he => ?_, fun e he => ?_⟩⟩
    · obtain ⟨h1, h2⟩ := ok.third e he
      have hne : ¬ e.containerId = id := fun heq => by rw [heq, hown] at h1; cases h1
      rw [hub, if_neg hne]
      exact ⟨h1, h2⟩
    · cases ho : st.own with
      | none => rw [ho] at he; cases he
      | some e0 =>
        rw [ho] at he
        cases he
        exact ⟨(ok.own e0 ho).1, rfl⟩
  | false =>
    -- a third-party entry, which exists
    simp only [Bool.false_eq_true, ↓reduceIte]
    obtain ⟨e1, he1, hid1⟩ := hex hown
    have hub : ∀ c, updBase { st with updates := st.updates.map fun e =>
          if e.containerId = id then { e with resources := some res } else e } c =
        if c = id then res else updBase st c := by
      intro c
      unfold updBase
      rw [find?_map_key Update.containerId _ (fun e => by split <;> rfl)]
      cases hf : st.updates.find? (fun e => e.containerId = c) with
      | none =>
        have hne : ¬ c = id := fun hc => by
          rw [List.find?_eq_none] at hf
          exact hf e1 he1 (by simp [hid1, hc])
        simp [hne]
      | some e0 =>
        have h0 : e0.containerId = c := by simpa using List.find?_some hf
        by_cases hc : c = id
        · simp [h0, hc, hown]
        · simp [h0, hc]
    refine ⟨hub, ⟨fun e' he' => ?_, ok.own⟩⟩
    obtain ⟨e, he, rfl⟩ := List.mem_map.1 he'
    obtain ⟨h1, h2⟩ := ok.third e he
    by_cases heq : e.containerId = id
    · simp only [heq, ↓reduceIte, hub]
      exact ⟨hown, trivial⟩
    · simp only [heq, ↓reduceIte, hub]
      exact ⟨h1, h2⟩

/-- `updateResources` after its claims succeeded overlays the update on its target -/
theorem updData_walk (st : State) (u : Update) (ok : EntOK st)
    (hex : isOwn st.kind u.containerId = false → ∃ e ∈ st.updates, e.containerId = u.containerId) :
    (∀ c, updBase (updData Quirks.fixed st u) c =
      if c = u.containerId then overlayUpd (updBase st c) u else updBase st c) ∧
    EntOK (updData Quirks.fixed st u) := by
  unfold updData overlayUpd updPids
  cases u.resources with
  | none => exact ⟨fun c => by simp, ok⟩
  | some r =>
    simp only [Quirks.fixed, Bool.false_eq_true, ↓reduceIte]
    obtain ⟨h1, h2⟩ := setEntryRes_walk st u.containerId (overlayRes (updBase st u.containerId) r r.pids) ok hex
    refine ⟨fun c => ?_, h2⟩
    rw [h1]
    split
    · rename_i hc; rw [hc]
    · rfl

section
variable (base : Cid → Resources)

theorem update1_rel (st st' : State) (s : Sim) (p : Plugin) (u : Update)
    (rel : Rel base st s) (ok : EntOK st)
    (h : update1 Quirks.fixed st p u = .ok st') :
    Rel base st' (simUpdate base s u) ∧ EntOK st' := by
  obtain ⟨st1, r, hg, hc, hr⟩ := update1_ok _ st st' p u h
  obtain ⟨hnc, ⟨hub, ok1⟩, hex⟩ := getUpdate_walk st st1 p u hg ok
  obtain ⟨hown, hk1⟩ := getUpdate_owners _ st st1 p u hg
  rw [updSets_fixed, hown] at hc
  -- the walk's claimed prefix is the ledger's
  obtain ⟨hsp1, hsp2⟩ := claimAllPartial_spec u.containerId p (setsUpd u) st.owners s.taken
    (fun it => rel.taken u.containerId it hnc)
  rw [hc] at hsp1 hsp2
  suffices hv : (∀ c, (simUpdate base s u).get base c = updBase st' c) ∧ EntOK st' from
    ⟨⟨fun c it hcc => by
      rw [simUpdate_taken, hsp2, rel.taken c it (update1_kind _ st st' p u h ▸ hcc)]
      rfl, hv.1⟩, hv.2⟩
  have hget : ∀ c, s.get base c = updBase st1 c := fun c => by rw [rel.vals, hub]
  rcases hr with ⟨rfl, hs⟩ | ⟨e, rfl, _, hs⟩
  · -- all claims succeeded: the update is applied, if it carries resources
    obtain ⟨hd, ok2⟩ := updData_walk st1 u ok1 (hk1 ▸ hex)
    have hlen : (freeOf s u).length = (setsUpd u).length := hsp1.1 rfl
    rw [hs]
    refine ⟨fun c => ?_, ok2.third, ok2.own⟩
    rw [simUpdate_get, hget]
    show _ = updBase (updData Quirks.fixed st1 u) c
    rw [hd]
    cases hr : u.resources with
    | none => simp [overlayUpd, hr]
    | some r => simp [applies, hr, hlen]
  · -- a claim failed, the update is ignored
    have hnapp : applies s u = false := by
      unfold applies
      cases u.resources with
      | none => rfl
      | some r => simpa using fun (hl : (freeOf s u).length = (setsUpd u).length) => nomatch hsp1.2 hl
    rw [hs]
    refine ⟨fun c => ?_, ok1.third, ok1.own⟩
    rw [simUpdate_get, hnapp, hget]
    simp only [Bool.false_eq_true, false_and, ↓reduceIte]
    rfl

theorem updateAll_rel (p : Plugin) (us : List Update) :
    ∀ (st st' : State) (s : Sim), Rel base st s → EntOK st →
      updateAll Quirks.fixed st p us = .ok st' →
      Rel base st' (us.foldl (simUpdate base) s) ∧ EntOK st' := by
  induction us with
  | nil => intro st st' s rel ok h; cases h; exact ⟨rel, ok⟩
  | cons u rest ih =>
    intro st st' s rel ok h
    obtain ⟨st1, h1, h2⟩ := (bind_eq_ok _ _ _).1 (updateAll_cons _ st p u rest ▸ h)
    obtain ⟨rel1, ok1⟩ := update1_rel base st st1 s p u rel ok h1
    exact ih st1 st' _ rel1 ok1 h2

theorem adjust_rel (st st1 : State) (s : Sim) (p : Plugin) (r : Response)
    (rel : Rel base st s) (ok : EntOK st)
    (h : adjust Quirks.fixed st p (adjustFor st.kind r) = .ok st1) : Rel base st1 s ∧ EntOK st1 := by
  cases hk : st.kind with
  | create id =>
    have hk1 := adjust_kind _ st st1 p _ h
    obtain ⟨hu, ho⟩ := adjust_updates _ st st1 p _ h
    have hub : ∀ c, updBase st1 c = updBase st c := by
      intro c
      unfold updBase
      rw [hk1, hu, hk]
      simp [isOwn]
    refine ⟨⟨?_, ?_⟩, ⟨?_, ?_⟩⟩
    · intro c it hc
      rw [hk1] at hc
      rw [rel.taken c it hc]
      -- the adjustment neither clears nor claims items of other containers
      have hne : c ≠ cidOf st.kind := by
        rw [hk]; intro heq; apply hc; rw [hk, heq]; rfl
      constructor
      · intro hs
        obtain ⟨w, hw⟩ := Option.isSome_iff_exists.1 hs
        rw [adjust_keeps _ st st1 p _ h c it w hw (fun _ _ hcc _ => hne hcc)]
        rfl
      · intro hs
        obtain ⟨w, hw⟩ := Option.isSome_iff_exists.1 hs
        rcases adjust_owner_inv _ st st1 p _ h c it w hw with h1 | ⟨_, _, hcc, _⟩
        · rw [h1]; rfl
        · exact absurd hcc hne
    · intro c; rw [rel.vals, hub]
    · intro e he
      rw [hu] at he
      rw [hk1, hub]
      exact ok.third e he
    · intro e he
      rw [ho] at he
      have := (ok.own e he).1
      rw [hk] at this
      simp [isOwn] at this
  | update id => rw [hk] at h; cases h; exact ⟨rel, ok⟩
  | stop => rw [hk] at h; cases h; exact ⟨rel, ok⟩

theorem apply_rel (st st' : State) (s : Sim) (p : Plugin) (r : Response)
    (rel : Rel base st s) (ok : EntOK st)
    (h : apply Quirks.fixed st p r = .ok st') :
    Rel base st' (r.updates.foldl (simUpdate base) s) ∧ EntOK st' := by
  obtain ⟨st1, h1, h2⟩ := (bind_eq_ok _ _ _).1 (apply_eq _ st p r ▸ h)
  obtain ⟨rel1, ok1⟩ := adjust_rel base st st1 s p r rel ok h1
  exact updateAll_rel base p r.updates st1 st' s rel1 ok1 h2

/-- the update lists of a chain, in plugin order -/
def flatUpdates (rs : List (Plugin × Response)) : List Update := rs.flatMap fun (_, r) => r.updates

theorem walk_eq (rs : List (Plugin × Response)) :
    walk base rs = (flatUpdates rs).foldl (simUpdate base) {} := rfl

theorem run_rel (rs : List (Plugin × Response)) :
    ∀ (st st' : State) (s : Sim), Rel base st s → EntOK st →
      run Quirks.fixed st (answeredAll rs) = .ok st' →
      Rel base st' ((flatUpdates rs).foldl (simUpdate base) s) ∧ EntOK st' := by
  induction rs with
  | nil => intro st st' s rel ok h; cases h; exact ⟨rel, ok⟩
  | cons x rest ih =>
    intro st st' s rel ok h
    obtain ⟨st1, h1, h2⟩ := (bind_eq_ok _ _ _).1 (run_cons_some _ st x.1 x.2 _ ▸ h)
    obtain ⟨rel1, ok1⟩ := apply_rel base st st1 s x.1 x.2 rel ok h1
    simpa only [flatUpdates, List.flatMap_cons, List.foldl_append] using ih st1 st' _ rel1 ok1 h2

end

/-- the base of the walk for a request starting in `st0`: the runtime's (normalised) request
    for the container being updated, empty normalised resources for every other container.
    Read off the start state, so that `run_rel` needs no case distinction on the request kind;
    on the three initial states it is `specBase` (`baseOf_initUpdate`, `C05_exact_fields`). -/
def baseOf (st0 : State) : Cid → Resources := fun c => if isOwn st0.kind c then st0.reqRes else normRes {}

/-- the base the correspondence driver uses (`Driver/Merge.lean: simBase`), a function of the
    request alone: the normalised requested resources for the container an update request
    updates, normalised empty resources for every other container. The theorems the driver's
    check stands for (`C05_exact_fields`, `C04_update`) are stated with it. -/
def specBase (k : Kind) (req : Resources) : Cid → Resources :=
  fun c => if isOwn k c then normRes req else normRes {}

theorem baseOf_initUpdate (id : Cid) (req : Resources) :
    baseOf (initUpdate id req) = specBase (.update id) req := rfl

/-- `Rel` reads the entry list and the ledger, not the own entry: its emptiness (`h2` in the
    theorems of C05) is a hypothesis of `entOK_fresh` only. -/
theorem rel_fresh (st0 : State) (h1 : st0.updates = []) (h3 : st0.owners = []) :
    Rel (baseOf st0) st0 {} := by
  constructor
  · intro c it _
    rw [h3]
    simp [Owners.owner, AList.lookup]
  · intro c
    unfold Sim.get updBase baseOf
    simp [h1]

theorem entOK_fresh (st0 : State) (h1 : st0.updates = []) (h2 : st0.own = none) : EntOK st0 := by
  constructor
  · intro e he; rw [h1] at he; cases he
  · intro e he; rw [h2] at he; cases he

theorem replyUpdates_vals (st : State) (ok : EntOK st) (e : Update) (he : some e ∈ replyUpdates st) :
    e.resources = some (updBase st e.containerId) := by
  have hthird : some e ∈ st.updates.map some → e.resources = some (updBase st e.containerId) := by
    intro hm
    obtain ⟨e', he', heq⟩ := List.mem_map.1 hm
    cases heq
    exact (ok.third e he').2
  unfold replyUpdates at he
  split at he
  · rcases List.mem_append.1 he with h | h
    · exact hthird h
    · simp only [List.mem_singleton] at h
      obtain ⟨h1, h2⟩ := ok.own e h.symm
      rw [h2]
      unfold updBase
      simp [h1]
  · exact hthird he

theorem viewsAlong_run (q : Quirks) (rs : List (Plugin × Option Response)) :
    ∀ (st : State) (i : Nat) (s : State), (viewsAlong q st rs)[i]? = some s → run q st (rs.take i) = .ok s := by
  induction rs with
  | nil => intro st i s h; simp [viewsAlong] at h
  | cons x rest ih =>
    intro st i s h
    obtain ⟨p, r⟩ := x
    cases i with
    | zero =>
      have h0 : (viewsAlong q st ((p, r) :: rest))[0]? = some st := by
        cases r with
        | none => rfl
        | some r => simp only [viewsAlong]; split <;> rfl
      rw [h0] at h
      cases h
      rfl
    | succ n =>
      cases r with
      | none => exact ih st n s h
      | some r =>
        simp only [viewsAlong] at h
        cases h1 : apply q st p r with
        | error e => simp [h1] at h
        | ok st1 =>
          rw [h1] at h
          simp only [List.take_succ_cons, run, h1]
          exact ih st1 n s h

theorem answeredAll_take (rs : List (Plugin × Response)) (i : Nat) :
    (answeredAll rs).take i = answeredAll (rs.take i) := by
  unfold answeredAll; rw [List.map_take]

/-- the plugins of a chain that answered, with their responses -/
def answered : List (Plugin × Option Response) → List (Plugin × Response)
  | [] => []
  | (_, none) :: rest => answered rest
  | (p, some r) :: rest => (p, r) :: answered rest

/-- a plugin that is not subscribed or was dropped leaves the collector state alone -/
theorem run_answered (q : Quirks) (rs : List (Plugin × Option Response)) :
    ∀ st, run q st rs = run q st (answeredAll (answered rs)) := by
  induction rs with
  | nil => intro st; rfl
  | cons x rest ih =>
    intro st
    obtain ⟨p, r⟩ := x
    cases r with
    | none => simp only [run, answered]; exact ih st
    | some r =>
      simp only [run, answered, answeredAll, List.map_cons]
      cases apply q st p r with
      | error e => rfl
      | ok st1 => exact ih st1

theorem answered_answeredAll (rs : List (Plugin × Response)) : answered (answeredAll rs) = rs := by
  induction rs with
  | nil => rfl
  | cons x rest ih =>
    obtain ⟨p, r⟩ := x
    simp only [answeredAll, List.map_cons, answered] at ih ⊢
    rw [ih]

end Nri.Result
