/-
Value side of the update walk, independent of the collector: the resources the walk holds for a
target are the base overlaid, in order, with the updates it applies to that target; these name
pairwise disjoint items; and read field by field (`fieldVal`) an overlay takes the update's value
where the update sets the item and the base's elsewhere. Hence each field of the result comes
from the single applied update that set it, or from the base (`fold_field_cases`).
-/
import NriModel.Lemmas.ResultWalk
import NriModel.Lemmas.AList

namespace Nri.UpdateWalk
open Nri.NApi Nri.Result Nri.Ledger

/-- The value of the field an item denotes, for the fields a `LinuxResources` message holds
    once per item: the 18 scalars and the unified keys. Hugepage limits (appended, not
    replaced) and the items that are not resources read as `other`. -/
inductive FVal
  | int (v : Option Int) | nat (v : Option Nat) | bool (v : Option Bool) | str (v : Str)
  | ostr (v : Option Str) | other
  deriving DecidableEq, Repr

def fieldVal : Item → Resources → FVal
  | .memLimit, r => .int (r.memory.getD {}).limit
  | .memReservation, r => .int (r.memory.getD {}).reservation
  | .memSwap, r => .int (r.memory.getD {}).swap
  | .memKernel, r => .int (r.memory.getD {}).kernel
  | .memKernelTcp, r => .int (r.memory.getD {}).kernelTcp
  | .memSwappiness, r => .nat (r.memory.getD {}).swappiness
  | .memDisableOom, r => .bool (r.memory.getD {}).disableOomKiller
  | .memUseHierarchy, r => .bool (r.memory.getD {}).useHierarchy
  | .cpuShares, r => .nat (r.cpu.getD {}).shares
  | .cpuQuota, r => .int (r.cpu.getD {}).quota
  | .cpuPeriod, r => .nat (r.cpu.getD {}).period
  | .cpuRtRuntime, r => .int (r.cpu.getD {}).realtimeRuntime
  | .cpuRtPeriod, r => .nat (r.cpu.getD {}).realtimePeriod
  | .cpusetCpus, r => .str (r.cpu.getD {}).cpus
  | .cpusetMems, r => .str (r.cpu.getD {}).mems
  | .pids, r => .int r.pids
  | .blockio, r => .ostr r.blockioClass
  | .rdt, r => .ostr r.rdtClass
  | .unified k, r => .ostr (AList.lookup r.unified k)
  | _, _ => .other

theorem unified_keys_nodup (r : Resources) (hnd : (resSets r).Nodup) : (r.unified.map (·.1)).Nodup := by
  -- `resSetsWith` is memory ++ cpu ++ hugepages ++ unified ++ blockio ++ rdt ++ pids; a summand of a
  -- list without repetition has none: `h1` is that fact for the fourth one, the unified keys
  unfold resSets resSetsWith at hnd
  exact nodup_map_of_comp (fun x : Str × Str => x.1) Item.unified _
    (List.nodup_append.1 (List.nodup_append.1 (List.nodup_append.1 (List.nodup_append.1 hnd).1).1).1).2.1

theorem overlay_field_set (b r : Resources) (it : Item) (hnd : (resSets r).Nodup) (h : it ∈ resSets r) :
    fieldVal it (overlayRes b r r.pids) = fieldVal it r := by
  -- by the place of `it` in `resSets r`: there the plugin's value wins the `orElse` of the overlay
  rcases (mem_resSetsWith_iff r _ it).1 h with
    ⟨m, hm, hmem⟩ | ⟨c, hc, hmem⟩ | ⟨l, _, rfl⟩ | ⟨⟨k, v⟩, hkv, rfl⟩ | ⟨hs, rfl⟩ | ⟨hs, rfl⟩ | ⟨hs, rfl⟩
  · rcases (mem_memSets_iff m it).1 hmem with
      ⟨hs, rfl⟩ | ⟨hs, rfl⟩ | ⟨hs, rfl⟩ | ⟨hs, rfl⟩ | ⟨hs, rfl⟩ | ⟨hs, rfl⟩ | ⟨hs, rfl⟩ | ⟨hs, rfl⟩
    all_goals simp [fieldVal, overlayRes, overlayMem, hm, Option.or_eq_left_of_isSome hs]
  · rcases (mem_cpuSets_iff c it).1 hmem with
      ⟨hs, rfl⟩ | ⟨hs, rfl⟩ | ⟨hs, rfl⟩ | ⟨hs, rfl⟩ | ⟨hs, rfl⟩ | ⟨hs, rfl⟩ | ⟨hs, rfl⟩
    all_goals simp [fieldVal, overlayRes, overlayCpu, hc, Option.or_eq_left_of_isSome, hs]
  · rfl
  · have hkn := unified_keys_nodup r hnd
    simp only [fieldVal, overlayRes]
    rw [AList.lookup_of_mem hkn hkv]
    exact congrArg _ (AList.lookup_foldl_insert_of_mem r.unified b.unified hkn hkv)
  all_goals simp [fieldVal, overlayRes, Option.or_eq_left_of_isSome hs]

theorem overlay_field_keep (b r : Resources) (it : Item) (h : it ∉ resSets r) :
    fieldVal it (overlayRes b r r.pids) = fieldVal it b := by
  -- `h` says for each part of the message that the plugin left the field unset, so the `orElse`
  -- of the overlay falls through to the base
  rw [resSets, mem_resSetsWith_iff] at h
  simp only [not_or, not_exists, not_and] at h
  obtain ⟨hmem, hcpu, -, huni, hblk, hrdt, hpids⟩ := h
  cases it
  case memLimit | memReservation | memSwap | memKernel | memKernelTcp | memSwappiness | memDisableOom
      | memUseHierarchy =>
    simp only [fieldVal, overlayRes]
    cases hm : r.memory with
    | none => rfl
    | some m =>
      have := hmem m hm
      simp [mem_memSets_iff] at this
      simp [overlayMem, this]
  case cpuShares | cpuQuota | cpuPeriod | cpuRtRuntime | cpuRtPeriod | cpusetCpus | cpusetMems =>
    simp only [fieldVal, overlayRes]
    cases hc : r.cpu with
    | none => rfl
    | some c =>
      have := hcpu c hc
      simp [mem_cpuSets_iff] at this
      simp [overlayCpu, this]
  case unified k =>
    have hk : k ∉ r.unified.map (·.1) := by
      intro hm
      obtain ⟨x, hx, rfl⟩ := List.mem_map.1 hm
      exact huni x hx rfl
    simp only [fieldVal, overlayRes]
    rw [← AList.lookup_foldl_insert_of_not_mem r.unified b.unified hk]
  case pids => simp at hpids; simp [fieldVal, overlayRes, hpids]
  case blockio => simp at hblk; simp [fieldVal, overlayRes, hblk]
  case rdt => simp at hrdt; simp [fieldVal, overlayRes, hrdt]
  all_goals rfl

/-- the updates of `us` the walk overlays on their targets, starting from `s` -/
def appliedFrom (base : Cid → Resources) (s : Sim) : List Update → List Update
  | [] => []
  | u :: rest => (if applies s u then [u] else []) ++ appliedFrom base (simUpdate base s u) rest

variable (base : Cid → Resources)

theorem mem_appliedFrom_cons (s : Sim) (u v : Update) (rest : List Update) :
    v ∈ appliedFrom base s (u :: rest) ↔
      (v = u ∧ applies s u = true) ∨ v ∈ appliedFrom base (simUpdate base s u) rest := by
  simp only [appliedFrom, List.mem_append]
  cases applies s u <;> simp

theorem appliedFrom_append (us vs : List Update) :
    ∀ s, appliedFrom base s (us ++ vs) = appliedFrom base s us ++ appliedFrom base (us.foldl (simUpdate base) s) vs := by
  induction us with
  | nil => intro s; rfl
  | cons u rest ih =>
    intro s
    simp only [List.cons_append, appliedFrom, List.foldl_cons, ih, List.append_assoc]

theorem foldl_get (us : List Update) :
    ∀ (s : Sim) (c : Cid), (us.foldl (simUpdate base) s).get base c =
      ((appliedFrom base s us).filter fun u => u.containerId = c).foldl overlayUpd (s.get base c) := by
  induction us with
  | nil => intro s c; rfl
  | cons u rest ih =>
    intro s c
    simp only [List.foldl_cons, appliedFrom, List.filter_append, List.foldl_append]
    rw [ih, simUpdate_get]
    congr 1
    by_cases hc : u.containerId = c
    · cases applies s u <;> simp [hc]
    · cases applies s u <;> simp [hc, Ne.symm hc]

theorem appliedFrom_mem (us : List Update) :
    ∀ (s : Sim), ∀ v ∈ appliedFrom base s us,
      v ∈ us ∧ (setsUpd v).Nodup ∧ (∃ r, v.resources = some r) ∧
      ∀ it ∈ setsUpd v, (v.containerId, it) ∉ s.taken := by
  induction us with
  | nil => intro s v hv; cases hv
  | cons u rest ih =>
    intro s v hv
    rcases (mem_appliedFrom_cons base s u v rest).1 hv with ⟨rfl, happ⟩ | hv
    · obtain ⟨hr, _, hnd, hfree⟩ := applies_spec s v happ
      exact ⟨List.mem_cons_self, hnd, hr, hfree⟩
    · obtain ⟨h1, h2, h3, h4⟩ := ih _ v hv
      exact ⟨List.mem_cons_of_mem _ h1, h2, h3,
        fun it hit hm => h4 it hit ((simUpdate_taken base s u _ it).2 (.inl hm))⟩

theorem not_applies_of_taken (s : Sim) (u : Update) (it : Item) (hit : it ∈ setsUpd u)
    (ht : (u.containerId, it) ∈ s.taken) : applies s u = false := by
  cases happ : applies s u with
  | false => rfl
  | true => exact absurd ht ((applies_spec s u happ).2.2.2 it hit)

theorem appliedFrom_pairwise (us : List Update) :
    ∀ (s : Sim), (appliedFrom base s us).Pairwise
      fun v w => v.containerId = w.containerId → ∀ it ∈ setsUpd v, it ∉ setsUpd w := by
  induction us with
  | nil => intro s; exact List.Pairwise.nil
  | cons u rest ih =>
    intro s
    simp only [appliedFrom]
    split
    · rename_i happ
      refine List.pairwise_cons.2 ⟨fun w hw hcid it hit hitw => ?_, ih _⟩
      -- `u` is applied, so its items are taken when the walk reaches `w`
      apply (appliedFrom_mem base rest _ w hw).2.2.2 it hitw
      rw [← hcid]
      exact (simUpdate_taken base s u u.containerId it).2
        (.inr ⟨rfl, by rw [(applies_spec s u happ).2.1]; exact hit⟩)
    · exact ih _

theorem overlayUpd_field_keep (b : Resources) (u : Update) (it : Item) (h : it ∉ setsUpd u) :
    fieldVal it (overlayUpd b u) = fieldVal it b := by
  unfold overlayUpd
  cases hr : u.resources with
  | none => rfl
  | some r =>
    simp only []
    apply overlay_field_keep
    simpa [setsUpd, resItems, hr] using h

theorem fold_field_keep (it : Item) (l : List Update) :
    ∀ (b : Resources), (∀ v ∈ l, it ∉ setsUpd v) → fieldVal it (l.foldl overlayUpd b) = fieldVal it b := by
  induction l with
  | nil => intro b _; rfl
  | cons u rest ih =>
    intro b h
    simp only [List.foldl_cons]
    rw [ih _ (fun v hv => h v (List.mem_cons_of_mem _ hv)),
      overlayUpd_field_keep b u it (h u List.mem_cons_self)]

theorem fold_field_cases (it : Item) (app : List Update) (b : Resources)
    (hpw : app.Pairwise fun v w => ∀ it ∈ setsUpd v, it ∉ setsUpd w)
    (hnd : ∀ u ∈ app, (setsUpd u).Nodup) :
    (∃ pre u post r, app = pre ++ u :: post ∧ u.resources = some r ∧ it ∈ setsUpd u ∧
        (∀ v ∈ pre ++ post, it ∉ setsUpd v) ∧ fieldVal it (app.foldl overlayUpd b) = fieldVal it r) ∨
    ((∀ v ∈ app, it ∉ setsUpd v) ∧ fieldVal it (app.foldl overlayUpd b) = fieldVal it b) := by
  by_cases hex : ∃ u ∈ app, it ∈ setsUpd u
  · left
    obtain ⟨u, hu, hitu⟩ := hex
    obtain ⟨pre, post, rfl⟩ := List.append_of_mem hu
    have hndu := hnd u hu
    -- an update that names an item carries resources
    obtain ⟨r, hr⟩ : ∃ r, u.resources = some r := by
      cases hr : u.resources with
      | none => simp [setsUpd, hr] at hitu
      | some r => exact ⟨r, rfl⟩
    obtain ⟨_, hpw2, hpw3⟩ := List.pairwise_append.1 hpw
    have hpost : ∀ v ∈ post, it ∉ setsUpd v := fun v hv => (List.pairwise_cons.1 hpw2).1 v hv it hitu
    refine ⟨pre, u, post, r, rfl, hr, hitu, fun v hv => ?_, ?_⟩
    · rcases List.mem_append.1 hv with hv | hv
      · exact fun hitv => hpw3 v hv u List.mem_cons_self it hitv hitu
      · exact hpost v hv
    · -- the updates after `u` leave the field alone, and `u` sets it whatever came before
      have hs : setsUpd u = resSets r := by simp [setsUpd, resItems, hr]
      rw [List.foldl_append, List.foldl_cons, fold_field_keep it post _ hpost]
      unfold overlayUpd
      simp only [hr]
      exact overlay_field_set _ r it (hs ▸ hndu) (hs ▸ hitu)
  · right
    have hnone : ∀ v ∈ app, it ∉ setsUpd v := fun v hv hitv => hex ⟨v, hv, hitv⟩
    exact ⟨hnone, fold_field_keep it app b hnone⟩

end Nri.UpdateWalk
