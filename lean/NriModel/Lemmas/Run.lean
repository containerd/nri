/-
Histories of a labelled transition system `step : σ → ι → Option σ`. A model defines its `run`
by recursion over the history; it proves once, by `eq_foldlM`, that this is the fold of `step` that
stops at the first refused event (`hrun`) and takes the facts about histories from here.
-/
namespace Nri.Run
variable {σ ι : Type} {step : σ → ι → Option σ} {run : σ → List ι → Option σ}

/-- `hrun` from the two equations that define `run` -/
theorem eq_foldlM (hnil : ∀ s, run s [] = some s)
    (hcons : ∀ s e h, run s (e :: h) = (step s e).bind fun s' => run s' h) (s : σ) (h : List ι) :
    run s h = h.foldlM step s := by
  induction h generalizing s with
  | nil => exact hnil s
  | cons e h ih => rw [hcons, List.foldlM_cons, funext ih]; rfl

variable (hrun : ∀ s h, run s h = h.foldlM step s) {s s' s'' : σ} {e : ι} {h h₁ h₂ : List ι}
include hrun

theorem cons : run s (e :: h) = some s'' ↔ ∃ s', step s e = some s' ∧ run s' h = some s'' := by
  simp only [hrun, List.foldlM_cons, Option.bind_eq_bind, Option.bind_eq_some_iff]

theorem fire (he : step s e = some s') : run s (e :: h) = run s' h := by
  simp [hrun, he]

theorem singleton : run s [e] = some s' ↔ step s e = some s' := by
  simp [hrun]

theorem append : run s (h₁ ++ h₂) = some s'' ↔ ∃ s', run s h₁ = some s' ∧ run s' h₂ = some s'' := by
  simp only [hrun, List.foldlM_append, Option.bind_eq_bind, Option.bind_eq_some_iff]

/-- what holds initially and is preserved by every accepted step of an event in `D` holds after
    every history of events in `D` -/
theorem induct_on {P : σ → Prop} {D : ι → Prop}
    (hstep : ∀ {s s' e}, D e → P s → step s e = some s' → P s') (hs : P s) (hd : ∀ e ∈ h, D e)
    (hr : run s h = some s') : P s' := by
  induction h generalizing s with
  | nil => cases (hrun s []).symm.trans hr; exact hs
  | cons e h ih =>
    obtain ⟨s₁, h₁, hr⟩ := (cons hrun).1 hr
    rw [List.forall_mem_cons] at hd
    exact ih (hstep hd.1 hs h₁) hd.2 hr

theorem induct {P : σ → Prop} (hstep : ∀ {s s' e}, P s → step s e = some s' → P s') (hs : P s)
    (hr : run s h = some s') : P s' :=
  induct_on hrun (D := fun _ => True) (fun _ => hstep) hs (fun _ _ => trivial) hr

end Nri.Run
