/-
Lemmas for C15 about `Stub.setupHandlers`, `Stub.dispatch`, split synchronisation and the
reuse of one stub for several sessions.
-/
import NriModel.Stub
import NriModel.Lemmas.StubMask

namespace Nri.Lemmas.Stub
open Nri Nri.Events Nri.Stub Nri.Lemmas.StubMask

theorem setupHandlers_eq (p : Plugin) :
    setupHandlers p = if subscribe p = 0#32 then .error .noHandlers
      else .ok (setupOrder.foldl (setupStep p) Handlers.empty) := rfl

theorem setup_error_iff (p : Plugin) : setupHandlers p = .error .noHandlers ↔ subscribe p = 0#32 := by
  rw [setupHandlers_eq]
  split <;> simp [*]

theorem setup_ok {p : Plugin} {hd : Handlers} (h : setupHandlers p = .ok hd) :
    hd = setupOrder.foldl (setupStep p) Handlers.empty ∧ subscribe p ≠ 0#32 := by
  rw [setupHandlers_eq] at h
  split at h
  · cases h
  · exact ⟨(Except.ok.inj h).symm, ‹_›⟩

theorem bound_of_new {p : Plugin} {hd : Handlers} (h : setupHandlers p = .ok hd) (s : Slot) :
    hd.bound s = if p.has s = true then some s else none := by
  rw [(setup_ok h).1, foldl_bound]
  simp [mem_setupOrder, Handlers.empty]

theorem events_of_new {p : Plugin} {hd : Handlers} (h : setupHandlers p = .ok hd) :
    hd.events = subscribe p := by
  rw [(setup_ok h).1]; rfl

theorem clamp_eq (events asked : Mask) :
    clamp events asked =
      if asked = 0#32 then .ok events
      else if asked &&& ~~~events = 0#32 then .ok asked
      else .error (.unhandled (asked &&& ~~~events)) := by
  unfold clamp
  by_cases hz : asked = 0#32
  · simp [hz]
  · by_cases hx : asked &&& ~~~events = 0#32 <;> simp [hz, hx]

theorem clamp_ok {events asked m : Mask} (h : clamp events asked = .ok m) (hne : events ≠ 0#32) :
    m ≠ 0#32 ∧ m &&& ~~~events = 0#32 := by
  rw [clamp_eq] at h
  split at h
  · cases h
    exact ⟨hne, BitVec.and_not_self _⟩
  · split at h
    · cases h
      exact ⟨‹_›, ‹_›⟩
    · cases h

/-- an absent `Configure` method counts as asking for nothing -/
theorem configure_ok {β : Type} {h : Handlers} {b : Behaviour β} {c r v : Str} {m : Mask}
    (hm : (configure h b c r v).2 = .ok m) : ∃ asked, clamp h.events asked = .ok m := by
  simp only [configure] at hm
  split at hm
  · exact ⟨0#32, by rw [clamp_eq, if_pos rfl]; exact hm⟩
  · split at hm
    · cases hm
    · exact ⟨_, hm⟩

theorem dispatch_requestFor {β : Type} (hd : Handlers) (b : Behaviour β) (d : Dyn β) {e : Nat} {s : Slot}
    (hs : slotOfEvent e = some s) (m : Msg β) :
    dispatch hd b d (requestFor e m) =
      match hd.bound s with
      | none => ⟨[], .ok (emptyReplyFor e), d⟩
      | some f => ⟨[⟨f, argsFor e m⟩], reply (b f (argsFor e m)) (replyFor e (b f (argsFor e m))), d⟩ := by
  have he := slotOfEvent_event.mp hs
  cases s <;> cases he <;> rfl

theorem dispatch_event {β : Type} {p : Plugin} {hd : Handlers} (hnew : setupHandlers p = .ok hd)
    (b : Behaviour β) (d : Dyn β) {e : Nat} {s : Slot} (hs : slotOfEvent e = some s) (m : Msg β) :
    dispatch hd b d (requestFor e m) =
      if p.has s = true then
        ⟨[⟨s, argsFor e m⟩], reply (b s (argsFor e m)) (replyFor e (b s (argsFor e m))), d⟩
      else ⟨[], .ok (emptyReplyFor e), d⟩ := by
  rw [dispatch_requestFor hd b d hs, bound_of_new hnew]
  cases p.has s <;> rfl

/-- pods and containers of a list of chunks, concatenated in order -/
def podsOf {β : Type} (chunks : List (List β × List β)) : List β := (chunks.map (·.1)).flatten
def ctrsOf {β : Type} (chunks : List (List β × List β)) : List β := (chunks.map (·.2)).flatten

section
variable {β : Type}

def accOf (acc : Option (List β × List β)) : List β × List β :=
  match acc with
  | none => ([], [])
  | some a => a

theorem accumulate_eq (acc : Option (List β × List β)) (pods ctrs : List β) :
    accumulate acc pods ctrs = ((accOf acc).1 ++ pods, (accOf acc).2 ++ ctrs) := by
  cases acc <;> rfl

theorem dispatch_more {hd : Handlers} {m : Method} (hm : hd.bound .synchronize = some m)
    (b : Behaviour β) (d : Dyn β) (pods ctrs : List β) :
    dispatch hd b d (.synchronize pods ctrs true) =
      ⟨[], .ok (.synchronize [] true), { d with syncReq := some (accumulate d.syncReq pods ctrs) }⟩ := by
  simp only [dispatch, synchronize, hm, if_true]

theorem dispatch_last {hd : Handlers} {m : Method} (hm : hd.bound .synchronize = some m)
    (b : Behaviour β) (d : Dyn β) (pods ctrs : List β) :
    dispatch hd b d (.synchronize pods ctrs false) =
      let a : Args β := .sync (accumulate d.syncReq pods ctrs).1 (accumulate d.syncReq pods ctrs).2
      ⟨[⟨m, a⟩], reply (b m a) (.synchronize (b m a).updates false), { d with syncReq := none }⟩ := by
  simp only [dispatch, synchronize, hm, Bool.false_eq_true, if_false]

theorem run_length (hd : Handlers) (b : Behaviour β) (d : Dyn β) (l : List (Request β)) :
    (run hd b d l).length = l.length := by
  induction l generalizing d with
  | nil => rfl
  | cons r rs ih => simp [run, ih]

/-- `pre` is the run up to the final chunk, `d'` the state in which that chunk is handled -/
theorem run_collect {hd : Handlers} {m : Method} (hm : hd.bound .synchronize = some m)
    (b : Behaviour β) (chunks : List (List β × List β)) (last : Request β) (d : Dyn β) :
    ∃ pre d', run hd b d (chunks.map (fun c => Request.synchronize c.1 c.2 true) ++ [last]) =
        pre ++ [dispatch hd b d' last] ∧
      (∀ o ∈ pre, o.calls = [] ∧ o.result = .ok (.synchronize [] true)) ∧
      accOf d'.syncReq = ((accOf d.syncReq).1 ++ podsOf chunks, (accOf d.syncReq).2 ++ ctrsOf chunks) := by
  induction chunks generalizing d with
  | nil => exact ⟨[], d, rfl, (fun _ h => nomatch h), by simp [podsOf, ctrsOf]⟩
  | cons c cs ih =>
    have h1 := dispatch_more hm b d c.1 c.2
    obtain ⟨pre, d', hrun, hall, hacc⟩ := ih { d with syncReq := some (accumulate d.syncReq c.1 c.2) }
    refine ⟨dispatch hd b d (.synchronize c.1 c.2 true) :: pre, d', ?_,
      List.forall_mem_cons.mpr ⟨⟨congrArg Outcome.calls h1, congrArg Outcome.result h1⟩, hall⟩, ?_⟩
    · simp only [List.map_cons, List.cons_append, run, h1, hrun]
    · rw [hacc, accumulate_eq]
      show (_ ++ c.1 ++ podsOf cs, _ ++ c.2 ++ ctrsOf cs) = (_ ++ (c.1 ++ podsOf cs), _ ++ (c.2 ++ ctrsOf cs))
      rw [List.append_assoc, List.append_assoc]

theorem callPod_dyn (h : Handlers) (b : Behaviour β) (s : Slot) (pod : Option β) :
    ∃ calls res, ∀ d, callPod h b d s pod = ⟨calls, res, d⟩ := by
  unfold callPod
  cases h.bound s <;> exact ⟨_, _, fun _ => rfl⟩

theorem callPodCtr_dyn (h : Handlers) (b : Behaviour β) (s : Slot) (pod ctr : Option β) :
    ∃ calls res, ∀ d, callPodCtr h b d s pod ctr = ⟨calls, res, d⟩ := by
  unfold callPodCtr
  cases h.bound s <;> exact ⟨_, _, fun _ => rfl⟩

theorem stateChange_dyn (h : Handlers) (b : Behaviour β) (e : EventNo) (pod ctr : Option β) :
    ∃ calls res, ∀ d, stateChange h b d e pod ctr = ⟨calls, res, d⟩ := by
  unfold stateChange
  split <;> first | exact callPod_dyn .. | exact callPodCtr_dyn .. | exact ⟨_, _, fun _ => rfl⟩

/-- the mutable state after a request, the collected chunks apart -/
def settle (d : Dyn β) : Request β → Dyn β
  | .configure _ _ _ regMs reqMs => takeTimeouts d regMs reqMs
  | _ => d

theorem dispatch_dyn (hd : Handlers) (b : Behaviour β) (sr : Option (List β × List β))
    (r : Request β) :
    ∃ calls res sr', ∀ t1 t2,
      dispatch hd b ⟨sr, t1, t2⟩ r = ⟨calls, res, { settle ⟨sr, t1, t2⟩ r with syncReq := sr' }⟩ := by
  cases r with
  | configure c rn v regMs reqMs => exact ⟨_, _, sr, fun _ _ => rfl⟩
  | synchronize pods ctrs more =>
    simp only [dispatch, synchronize]
    cases hd.bound .synchronize with
    | none => exact ⟨_, _, sr, fun _ _ => rfl⟩
    | some m => cases more <;> exact ⟨_, _, _, fun _ _ => rfl⟩
  | stateChange e pod ctr =>
    obtain ⟨calls, res, h⟩ := stateChange_dyn hd b e pod ctr
    exact ⟨calls, res, sr, fun _ _ => h _⟩
  | _ =>
    simp only [dispatch]
    cases hd.bound _ <;> exact ⟨_, _, sr, fun _ _ => rfl⟩

theorem dispatch_configure_eq (hd : Handlers) (b : Behaviour β) (d : Dyn β) (c r v : Str)
    (regMs reqMs : Int) :
    dispatch hd b d (.configure c r v regMs reqMs) =
      ⟨(configure hd b c r v).1, (configure hd b c r v).2.map .configure, takeTimeouts d regMs reqMs⟩ :=
  rfl

end

/-- Every request: what is invoked and answered, and what is left collected, depends on the
    mutable state through the collected synchronisation chunks only — never on the timeouts. -/
theorem dispatch_equiv {β : Type} (hd : Handlers) (b : Behaviour β) (d d' : Dyn β)
    (h : d.syncReq = d'.syncReq) (r : Request β) :
    (dispatch hd b d r).visible = (dispatch hd b d' r).visible ∧
    (dispatch hd b d r).dyn.syncReq = (dispatch hd b d' r).dyn.syncReq := by
  obtain ⟨calls, res, sr', hr⟩ := dispatch_dyn hd b d.syncReq r
  have h1 : dispatch hd b d r = _ := hr d.regTimeoutNs d.reqTimeoutNs
  have h2 : dispatch hd b d' r = _ := h ▸ hr d'.regTimeoutNs d'.reqTimeoutNs
  rw [h1, h2]
  exact ⟨rfl, rfl⟩

section
variable {β : Type}

theorem dispatch_reg_pos (hd : Handlers) (b : Behaviour β) (d : Dyn β) (r : Request β)
    (h : 0 < d.regTimeoutNs) : 0 < (dispatch hd b d r).dyn.regTimeoutNs := by
  obtain ⟨calls, res, sr', hr⟩ := dispatch_dyn hd b d.syncReq r
  rw [show dispatch hd b d r = _ from hr d.regTimeoutNs d.reqTimeoutNs]
  cases r with
  | configure c rn v regMs reqMs =>
    show 0 < (if regMs > 0 then regMs * 1000000 else d.regTimeoutNs)
    split <;> omega
  | _ => exact h

theorem runReqs_equiv (hd : Handlers) (reqs : List (Behaviour β × Request β)) (d d' : Dyn β)
    (h : d.syncReq = d'.syncReq) :
    (runReqs hd d reqs).1.map Outcome.visible = (runReqs hd d' reqs).1.map Outcome.visible := by
  induction reqs generalizing d d' with
  | nil => rfl
  | cons br rest ih =>
    have h1 := dispatch_equiv hd br.1 d d' h br.2
    simp only [runReqs, List.map_cons]
    rw [h1.1, ih _ _ h1.2]

theorem runReqs_reg_pos (hd : Handlers) (reqs : List (Behaviour β × Request β)) (d : Dyn β)
    (h : 0 < d.regTimeoutNs) : 0 < (runReqs hd d reqs).2.regTimeoutNs := by
  induction reqs generalizing d with
  | nil => exact h
  | cons br rest ih => exact ih _ (dispatch_reg_pos hd br.1 d br.2 h)

theorem finishSession_equiv (st st' : StubState β) (hh : st.handlers = st'.handlers)
    (s : Session β) (o o' : Outcome β) (hv : o.visible = o'.visible) (hs : o.dyn.syncReq = o'.dyn.syncReq) :
    (finishSession st s o).1.visible = (finishSession st' s o').1.visible := by
  have hr : o.result = o'.result := congrArg Prod.snd hv
  unfold finishSession
  rw [← hh, ← hr]
  cases o.result with
  | error e => exact congrArg (·, []) hv
  | ok rp => simp only [SessionOut.visible, hv, runReqs_equiv st.handlers s.reqs o.dyn o'.dyn hs]

theorem runSession_equiv (st st' : StubState β) (hh : st.handlers = st'.handlers)
    (hs : st.dyn.syncReq = st'.dyn.syncReq) (hp : 0 < st.dyn.regTimeoutNs) (hp' : 0 < st'.dyn.regTimeoutNs)
    (s : Session β) :
    (runSession st s).1.visible = (runSession st' s).1.visible := by
  have hd := dispatch_equiv st.handlers s.cfgB st.dyn st'.dyn hs
    (.configure s.config s.runtime s.version s.regMs s.reqMs)
  unfold runSession
  simp only [registers, hp, hp', decide_true, if_true]
  rw [← hh]
  exact finishSession_equiv st st' hh s _ _ hd.1 hd.2

theorem runSession_state (st : StubState β) (s : Session β) :
    (runSession st s).2.handlers = st.handlers ∧
    (st.dyn.syncReq = none → (runSession st s).2.dyn.syncReq = none) ∧
    (0 < st.dyn.regTimeoutNs → 0 < (runSession st s).2.dyn.regTimeoutNs) := by
  unfold runSession
  split
  · unfold finishSession
    split
    · exact ⟨rfl, id, dispatch_reg_pos _ _ _ _⟩
    · exact ⟨rfl, fun _ => rfl, fun h => runReqs_reg_pos _ _ _ (dispatch_reg_pos _ _ _ _ h)⟩
  · exact ⟨rfl, id, id⟩

theorem runSessions_state (st : StubState β) (ss : List (Session β)) :
    (runSessions st ss).2.handlers = st.handlers ∧
    (st.dyn.syncReq = none → (runSessions st ss).2.dyn.syncReq = none) ∧
    (0 < st.dyn.regTimeoutNs → 0 < (runSessions st ss).2.dyn.regTimeoutNs) := by
  induction ss generalizing st with
  | nil => exact ⟨rfl, id, id⟩
  | cons s rest ih =>
    have h1 := runSession_state st s
    have h2 := ih (runSession st s).2
    simp only [runSessions]
    exact ⟨h2.1.trans h1.1, fun h => h2.2.1 (h1.2.1 h), fun h => h2.2.2 (h1.2.2 h)⟩

theorem runSessions_append (st : StubState β) (pre : List (Session β)) (s : Session β) :
    (runSessions st (pre ++ [s])).1 = (runSessions st pre).1 ++ [(runSession (runSessions st pre).2 s).1] := by
  induction pre generalizing st with
  | nil => rfl
  | cons p rest ih => simp [runSessions, ih]

theorem runSession_cfg (st : StubState β) (s : Session β) (hp : 0 < st.dyn.regTimeoutNs) :
    (runSession st s).1.cfg =
      dispatch st.handlers s.cfgB st.dyn (.configure s.config s.runtime s.version s.regMs s.reqMs) := by
  unfold runSession finishSession
  simp only [registers, hp, decide_true, if_true]
  split <;> rfl

end

end Nri.Lemmas.Stub
