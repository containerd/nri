/-
Lemmas for C15 about the handler table and the subscription mask that `Stub.setupHandlers`
builds: the table of event numbers read slot by slot, one block of `setupHandlers`, the fold
over all blocks, and the resulting mask bit by bit.
-/
import NriModel.Stub
import NriModel.Lemmas.Events

namespace Nri.Lemmas.StubMask
open Nri Nri.Events Nri.Stub

/-! ### a fact about bit vectors in general: Go's `a & ^b == 0` -/

theorem and_not_eq_zero_iff {n : Nat} (a b : BitVec n) :
    a &&& ~~~b = 0#n ↔ ∀ i, a.getLsbD i = true → b.getLsbD i = true := by
  constructor
  · intro h i hi
    have := congrArg (fun v => BitVec.getLsbD v i) h
    simpa [hi, BitVec.lt_of_getLsbD hi] using this
  · intro h
    apply BitVec.eq_of_getLsbD_eq
    intro i hi
    cases ha : a.getLsbD i
    · simp [ha]
    · simp [ha, h i ha, hi]

theorem event_range {s : Slot} {e : Nat} (h : s.event = some e) : 1 ≤ e ∧ e ≤ 13 := by
  cases s <;> cases h <;> decide

theorem has_of_event (p : Plugin) {s : Slot} {e : Nat} (h : s.event = some e) :
    p.has s = p.ev.getLsbD (e - 1) := by
  cases s <;> cases h <;> rfl

theorem slotOfEvent_event {e : Nat} {s : Slot} : slotOfEvent e = some s ↔ s.event = some e := by
  constructor
  · intro h
    unfold slotOfEvent at h
    split at h <;> cases h <;> rfl
  · intro h
    cases s <;> cases h <;> rfl

theorem slotOfEvent_isSome {e : Nat} (h1 : 1 ≤ e) (h13 : e ≤ 13) : ∃ s, slotOfEvent e = some s := by
  have table : ∀ e ∈ List.range' 1 13, (slotOfEvent e).isSome = true := by decide
  exact Option.isSome_iff_exists.mp (table e (List.mem_range'_1.mpr ⟨h1, by omega⟩))

theorem mem_setupOrder (s : Slot) : s ∈ setupOrder := by
  cases s <;> decide

theorem bound_setupStep (p : Plugin) (h : Handlers) (s t : Slot) :
    (setupStep p h s).bound t = if t = s ∧ p.has t = true then some t else h.bound t := by
  unfold setupStep
  by_cases hts : t = s
  · subst hts
    cases p.has t <;> simp
  · cases p.has s <;> simp [hts]

theorem getLsbD_setupStep (p : Plugin) (h : Handlers) (s : Slot) (i : Nat) :
    (setupStep p h s).events.getLsbD i =
      (h.events.getLsbD i || (p.has s && decide (s.event = some (i + 1)))) := by
  unfold setupStep
  cases p.has s
  · simp
  · cases he : s.event with
    | none => simp
    | some e =>
      have := event_range he
      simp only [if_true, Bool.true_and, getLsbD_set, Option.some.injEq]
      congr 1
      apply decide_eq_decide.mpr
      omega

theorem foldl_bound (p : Plugin) (l : List Slot) (h : Handlers) (t : Slot) :
    (l.foldl (setupStep p) h).bound t = if t ∈ l ∧ p.has t = true then some t else h.bound t := by
  induction l generalizing h with
  | nil => simp
  | cons s rest ih =>
    rw [List.foldl_cons, ih, bound_setupStep]
    by_cases hp : p.has t = true
    · by_cases hr : t ∈ rest <;> simp [hr, hp]
    · simp [hp]

theorem foldl_events (p : Plugin) (l : List Slot) (h : Handlers) (i : Nat) :
    (l.foldl (setupStep p) h).events.getLsbD i =
      (h.events.getLsbD i || l.any (fun s => p.has s && decide (s.event = some (i + 1)))) := by
  induction l generalizing h with
  | nil => simp
  | cons s rest ih => rw [List.foldl_cons, ih, getLsbD_setupStep, List.any_cons, Bool.or_assoc]

/-- some block sets bit `i` iff the slot of event `i + 1` is implemented -/
theorem getLsbD_subscribe (p : Plugin) (i : Nat) : (subscribe p).getLsbD i = p.ev.getLsbD i := by
  rw [Bool.eq_iff_iff, subscribe, foldl_events]
  simp only [Handlers.empty, BitVec.getLsbD_zero, Bool.false_or, List.any_eq_true,
    Bool.and_eq_true, decide_eq_true_eq]
  constructor
  · intro ⟨s, _, hs, he⟩
    rwa [has_of_event p he] at hs
  · intro hi
    have h13 := BitVec.lt_of_getLsbD hi
    obtain ⟨s, hs⟩ := slotOfEvent_isSome (Nat.le_add_left 1 i) (show i + 1 ≤ 13 by omega)
    have he := slotOfEvent_event.mp hs
    exact ⟨s, mem_setupOrder s, by rwa [has_of_event p he], he⟩

theorem subscribe_eq (p : Plugin) : subscribe p = p.ev.setWidth 32 := by
  apply BitVec.eq_of_getLsbD_eq
  intro i hi
  rw [getLsbD_subscribe, BitVec.getLsbD_setWidth]
  simp [hi]

theorem subscribe_eq_zero_iff (p : Plugin) : subscribe p = 0#32 ↔ p.ev = 0#13 := by
  rw [subscribe_eq, ← BitVec.toNat_inj, ← BitVec.toNat_inj, BitVec.toNat_setWidth_of_le (by decide)]
  rfl

end Nri.Lemmas.StubMask
