/-
Invariant of the repaired stub session machine and its preservation (helper lemmas for
`Props/C16.lean`).
-/
import NriModel.Lemmas.StubSessionAny

namespace Nri.StubSession

theorem nodup_ins (x : Nat) (l : List Nat) (h : l.Nodup) : (ins x l).Nodup := by
  unfold ins; split
  · exact h
  · next hx => exact nodup_snoc h hx

/-- The invariant of the repaired machine on in-domain histories is `Good s = Inv s.started s`.
    `Start` breaks and restores it within one step, so it is stated with `up` for "session
    `cur` is up" in the place of `s.started`: `Inv true` also holds of the states inside
    `Start`, from the creation of the session's client on, and each part of a step (`fresh`,
    `lose`, `close`, `establish`, `fire`) has its own preservation lemma. -/
structure Inv (up : Bool) (s : State) : Prop extends Book s where
  notWedged : s.wedged = false
  startedUp : s.started = true → up = true
  startedEstab : s.started = true → s.cur ∈ s.estab
  upPos : up = true → 1 ≤ s.cur
  /-- `stub.conn` is nil unless a session is up, -/
  connNone : up = false → s.conn = none
  /-- and then the connection obtained last -/
  connCur : up = true → s.conn = some s.dials ∧ 1 ≤ s.dials
  /-- the client of every session that is over is closed (notification pending or delivered) -/
  endedClosed : ∀ x, 1 ≤ x → x ≤ s.cur → (x ≠ s.cur ∨ up = false) →
    x ∈ s.inflight ∨ x ∈ s.fired
  /-- and so is its `doneC` -/
  endedDone : ∀ x, 1 ≤ x → x ≤ s.cur → (x ≠ s.cur ∨ up = false) → x ∈ s.done
  doneRng : Rng s.done s.cur
  curDone : s.cur ∈ s.done → up = false
  /-- connections are numbered `1 … dials` -/
  deadRng : Rng s.dead s.dials
  /-- while the client of a session that is up is open, its connection is -/
  aliveConn : up = true → s.cur ∉ s.inflight → s.cur ∉ s.fired → s.dials ∉ s.dead
  estabRng : Rng s.estab s.cur
  waitingRng : Rng s.waiting s.cur

abbrev Good (s : State) : Prop := Inv s.started s

section
variable {s : State}

theorem Good.inv {b : Bool} (hg : Good s) (hs : s.started = b) : Inv b s := hs ▸ hg

theorem Inv.good {b : Bool} (h : Inv b s) (hs : s.started = b) : Good s := by
  subst hs; exact h

theorem good_init (src : ConnSrc) : Good (initWith src) := by
  -- every clause is vacuous: nothing started, all lists empty, `cur = dials = 0`
  apply Inv.mk (Book.init src) <;> simp [initWith, Rng] <;> omega

/-- the state inside `Start` once `connect()` has produced a new connection (dialled, or —
    `pre` — the pre-made one taken into use) and the session's client exists -/
def fresh (pre : Bool) (s : State) : State :=
  { s with conn := some (s.dials + 1), dials := s.dials + 1, cur := s.cur + 1,
           preUsed := s.preUsed || pre }

theorem Inv.fresh (h : Inv false s) (pre : Bool) : Inv true (fresh pre s) where
  toBook := { h.toBook.bump with }
  notWedged := h.notWedged
  startedUp _ := rfl
  startedEstab hs := nomatch h.startedUp hs
  upPos _ := Nat.le_add_left 1 s.cur
  connNone := nofun
  connCur _ := ⟨rfl, Nat.le_add_left 1 s.dials⟩
  endedClosed x h1 h2 h3 :=
    h.endedClosed x h1 (Nat.le_of_lt_succ (Nat.lt_of_le_of_ne h2 (h3.resolve_right nofun))) (.inr rfl)
  endedDone x h1 h2 h3 :=
    h.endedDone x h1 (Nat.le_of_lt_succ (Nat.lt_of_le_of_ne h2 (h3.resolve_right nofun))) (.inr rfl)
  doneRng := h.doneRng.mono (Nat.le_succ _)
  curDone hx := absurd hx h.doneRng.succ_not_mem
  deadRng := h.deadRng.mono (Nat.le_succ _)
  aliveConn _ _ _ := h.deadRng.succ_not_mem
  estabRng := h.estabRng.mono (Nat.le_succ _)
  waitingRng := h.waitingRng.mono (Nat.le_succ _)

theorem Inv.lose (h : Inv true s) : Inv true (lose s) :=
  { h with
    toBook := { h.toBook.closeClient (h.upPos rfl) (Nat.le_refl _) with }
    endedClosed := fun x h1 h2 h3 =>
      (h.endedClosed x h1 h2 h3).imp_left fun hx => mem_closeClient.mpr (.inl hx)
    deadRng := by
      have hd : (StubSession.lose s).dead = ins s.dials s.dead := by
        simp only [StubSession.lose, markDead, closeClient, (h.connCur rfl).1]
      exact hd ▸ h.deadRng.ins (h.connCur rfl).2 (Nat.le_refl _)
    aliveConn := fun _ hi hf => absurd (mem_closeClient (s := s).mpr (.inr ⟨rfl, hf⟩)) hi }

theorem Inv.unstart {up : Bool} (h : Inv up s) : Inv up { s with started := false } :=
  { h with startedPos := nofun, startedUp := nofun, startedEstab := nofun }

/-- the end of `close()` and of the failure path of `Start`, after the client was closed -/
theorem Inv.close (h : Inv true s) (hs : s.started = false)
    (hl : s.cur ∈ s.inflight ∨ s.cur ∈ s.fired) :
    Inv false { s with done := ins s.cur s.done, conn := none } :=
  { h with
    startedUp := fun hs' => nomatch hs.symm.trans hs'
    upPos := nofun
    connNone := fun _ => rfl
    connCur := nofun
    endedClosed := fun x h1 h2 _ =>
      (Nat.decEq x s.cur).byCases (· ▸ hl) fun hne => h.endedClosed x h1 h2 (.inl hne)
    endedDone := fun x h1 h2 _ => mem_ins.mpr <|
      (Nat.decEq x s.cur).byCases .inl fun hne => .inr (h.endedDone x h1 h2 (.inl hne))
    doneRng := h.doneRng.ins (h.upPos rfl) (Nat.le_refl _)
    curDone := fun _ => rfl
    aliveConn := nofun }

theorem Inv.failStart (h : Inv true s) (hs : s.started = false) :
    Inv false (failStart fixed s) :=
  h.lose.close hs (closeClient_lost s s.cur)

theorem Inv.establish (h : Inv true s) : Good (establish s) :=
  { h with
    startedPos := fun _ => h.upPos rfl
    startedUp := fun _ => rfl
    startedEstab := fun _ => mem_snoc.mpr (.inr rfl)
    estabRng := h.estabRng.snoc (h.upPos rfl) (Nat.le_refl _) }

/-- a close notification runs (after `closeStub`, if it is the current session's) -/
theorem Inv.fire {up : Bool} (h : Inv up s) {sid : Nat} (hin : sid ∈ s.inflight) :
    Inv up { s with inflight := s.inflight.erase sid, fired := s.fired ++ [sid] } :=
  { h with
    toBook := h.toBook.fire hin
    endedClosed := fun x h1 h2 h3 => by
      rcases h.endedClosed x h1 h2 h3 with hx | hx
      · by_cases e : x = sid
        · exact .inr (mem_snoc.mpr (.inr e))
        · exact .inl ((List.mem_erase_of_ne e).mpr hx)
      · exact .inr (mem_snoc.mpr (.inl hx))
    aliveConn := fun hu hi hf => by
      have hne : s.cur ≠ sid := fun e => hf (mem_snoc.mpr (.inr e))
      exact h.aliveConn hu (fun hx => hi ((List.mem_erase_of_ne hne).mpr hx))
        (fun hx => hf (mem_snoc.mpr (.inl hx))) }

theorem good_stop (hg : Good s) : Good (closeStub s) := by
  unfold closeStub
  split
  · next hs =>
    exact (hg.inv hs).unstart.lose.close rfl (closeClient_lost s s.cur)
  · exact hg

end

theorem start_cases {s s' : State} {o : Script} {r : StartRes}
    (hc : s.started = false → s.conn = none) (h : startStep fixed s o r = some s') :
    match r with
    | .err k => (s' = s ∧ (k = .already ∨ s.started = false)) ∨
        (s.started = false ∧ ∃ pre, s' = failStart fixed (fresh pre s))
    | .ok => s.started = false ∧ ∃ pre, (o = .ok ∧ s' = establish (fresh pre s)) ∨
        (o = .dropLate ∧ s' = establish (lose (fresh pre s)))
    | .blocked => o = .stall := by
  rcases startStep_cases h with ⟨rfl, k, rfl, hk⟩ | ⟨hs, s1, o', ho', ha, hs1⟩
  · exact .inl ⟨rfl, hk⟩
  · obtain ⟨pre, rfl⟩ : ∃ pre, s1 = { adopt s with preUsed := s.preUsed || pre } :=
      hs1.elim (fun h1 => absurd (hc hs) h1.1) (·.2)
    rcases attempt_cases ha with ⟨⟨k, rfl⟩, rfl⟩ | ⟨rfl, rfl, rfl⟩ | ⟨rfl, rfl, rfl⟩ | ⟨hb, rfl, _⟩
    · exact .inr ⟨hs, pre, rfl⟩
    · exact ⟨hs, pre, .inl ⟨(ho'.resolve_right nofun).symm, rfl⟩⟩
    · exact ⟨hs, pre, .inr ⟨(ho'.resolve_right nofun).symm, rfl⟩⟩
    · rcases hb.resolve_left nofun, ho' with ⟨rfl, h0 | h0⟩
      · exact h0.symm
      · cases h0

theorem good_step {s s' : State} {e : Event} (hg : Good s) (hd : inDomain e = true)
    (h : step? fixed s e = some s') : Good s' := by
  revert hd h
  fun_cases step? fixed s e <;> intro hd h
  case case2 o r _ =>  -- start
    have hc := start_cases hg.connNone h
    cases r with
    | err k =>
      rcases hc with ⟨rfl, _⟩ | ⟨hs, pre, rfl⟩
      · exact hg
      · exact (((hg.inv hs).fresh pre).failStart hs).good hs
    | ok =>
      obtain ⟨hs, pre, ⟨_, rfl⟩ | ⟨_, rfl⟩⟩ := hc
      · exact ((hg.inv hs).fresh pre).establish
      · exact ((hg.inv hs).fresh pre).lose.establish
    | blocked => obtain rfl : o = .stall := hc; cases hd
  -- the refused events go; in the others `s'` becomes the next state
  all_goals cases h
  case case4 => exact good_stop hg  -- stop
  case case5 ha =>  -- connLost
    have hs := (alive_iff.mp (Bool.and_eq_true _ _ ▸ ha).2).1
    exact (hg.inv hs).lose.good hs
  case case8 sid hin s1 =>  -- closeNotify
    simp only [Bool.or_eq_true, not_or, Bool.not_eq_true', decide_eq_false_iff_not,
      Decidable.not_not] at hin
    simp only [s1]
    split
    · exact (good_stop hg).fire (closeStub_inflight hin.2)
    · exact hg.fire hin.2
  case case10 => exact hg  -- wait true
  case case12 hs =>  -- wait false
    simp only [Bool.and_eq_true] at hs
    exact { hg with waitingRng := hg.waitingRng.snoc (hg.upPos hs.1) (Nat.le_refl _) }
  case case14 sid _ =>  -- waitRet
    exact { hg with waitingRng := hg.waitingRng.erase sid }
  case case16 => exact hg  -- dispatch

/-- `s` is reachable by the repaired machine through a history inside C16's domain. -/
def Reach (s : State) : Prop :=
  ∃ (src : ConnSrc) (h : List Event),
    (∀ e ∈ h, inDomain e = true) ∧ run fixed (initWith src) h = some s

theorem Reach.good {s : State} (h : Reach s) : Good s := by
  obtain ⟨src, hist, hd, hr⟩ := h
  exact Run.induct_on (run_eq fixed) (fun hd hg => good_step hg hd) (good_init src) hd hr

theorem Reach.step {s s' : State} {e : Event} (h : Reach s) (hd : inDomain e = true)
    (hs : step? fixed s e = some s') : Reach s' := by
  obtain ⟨src, hist, hd0, hr⟩ := h
  refine ⟨src, hist ++ [e], ?_, run_snoc hr hs⟩
  intro e' he'
  rcases List.mem_append.mp he' with h1 | h1
  · exact hd0 e' h1
  · exact List.mem_singleton.mp h1 ▸ hd

/-- `connClosed` of the repaired code: `close()` only for the current session -/
theorem step_closeNotify {s : State} (hw : s.wedged = false) {sid : Nat} (hin : sid ∈ s.inflight) :
    step? fixed s (.closeNotify sid) =
      some (let s1 := if sid = s.cur then closeStub s else s
            { s1 with inflight := s1.inflight.erase sid, fired := s1.fired ++ [sid] }) := by
  simp [step?, hw, hin, fixed]

/-- every pending close notification can be delivered (here: in list order); afterwards
    none is pending -/
theorem drain {s : State} (hr : Reach s) :
    ∃ s', run fixed s (s.inflight.map .closeNotify) = some s' ∧ Reach s' ∧ s'.inflight = [] := by
  refine run_drain (f := (·.inflight)) (fun t sid ht hin => ?_) hr
  have h1 := step_closeNotify ht.good.notWedged hin
  refine ⟨_, h1, ht.step rfl h1, ?_⟩
  by_cases hc : sid = t.cur
  · have : (closeStub t).inflight = t.inflight := by
      unfold closeStub; split
      · simp [closeClient, markDead, hc ▸ hin]
      · rfl
    simp only [if_pos hc, this]
  · simp only [if_neg hc]

end Nri.StubSession
