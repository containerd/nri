/-
The session machine in EVERY variant (also the code before the patch, also after a `stall`):
what one step can do to the state, and the bookkeeping of close notifications (`Book`).

Branches as `fun_cases` numbers them (`/`: result, `none`):
`step?`: 1/2 start (wedged / `startStep`), 3/4 stop (wedged / done), 5/6 connLost (live / refused),
  7/8 closeNotify (refused / delivered), 9 wait, wedged, 10/11 wait true (returns / refused),
  12/13 wait false (blocks / refused), 14/15 waitRet (released / refused), 16/17 dispatch (the
  answer is / is not the state's).
`startStep`: 1/2 started ("already started" / other), 3 a connection still recorded, 4/5/6 environment
  descriptor used up ("invalid socket" / registration error on an adopted socket / other), 7 the
  pre-made connection, 8/9 the dial fails (`err dial` / other), 10 a connection is dialled.
-/
import NriModel.StubSession
import NriModel.Lemmas.Run

namespace Nri.StubSession

theorem nodup_snoc {α : Type} {l : List α} {x : α} (h : l.Nodup) (hx : x ∉ l) : (l ++ [x]).Nodup :=
  List.nodup_append.mpr ⟨h, by simp, fun a ha b hb => by
    rw [List.mem_singleton.mp hb]; exact fun e => hx (e ▸ ha)⟩

theorem mem_snoc {α : Type} {l : List α} {x y : α} : y ∈ l ++ [x] ↔ y ∈ l ∨ y = x := by simp

@[simp] theorem mem_ins {x y : Nat} {l : List Nat} : y ∈ ins x l ↔ y = x ∨ y ∈ l := by
  unfold ins; split
  · next h => exact ⟨.inr, fun h' => h'.elim (· ▸ h) id⟩
  · exact mem_snoc.trans Or.comm

def Rng (l : List Nat) (n : Nat) : Prop := ∀ x ∈ l, 1 ≤ x ∧ x ≤ n

section
variable {l : List Nat} {n x : Nat}

theorem Rng.mono {m : Nat} (h : Rng l n) (hm : n ≤ m) : Rng l m :=
  fun x hx => ⟨(h x hx).1, Nat.le_trans (h x hx).2 hm⟩

theorem Rng.succ_not_mem (h : Rng l n) : n + 1 ∉ l :=
  fun hx => Nat.not_succ_le_self n (h _ hx).2

theorem Rng.snoc (h : Rng l n) (h1 : 1 ≤ x) (h2 : x ≤ n) :
    Rng (l ++ [x]) n :=
  fun y hy => (mem_snoc.mp hy).elim (h y) (· ▸ ⟨h1, h2⟩)

theorem Rng.ins (h : Rng l n) (h1 : 1 ≤ x) (h2 : x ≤ n) :
    Rng (ins x l) n :=
  fun y hy => (mem_ins.mp hy).elim (· ▸ ⟨h1, h2⟩) (h y)

theorem Rng.erase (h : Rng l n) (x : Nat) : Rng (l.erase x) n :=
  fun y hy => h y (List.mem_of_mem_erase hy)

end

theorem mem_closeClient {s : State} {sid x : Nat} :
    x ∈ (closeClient s sid).inflight ↔ x ∈ s.inflight ∨ x = sid ∧ sid ∉ s.fired := by
  simp only [closeClient]
  split
  · next h => exact ⟨.inl, fun h' => h'.elim id fun ⟨e, hf⟩ => e ▸ h.resolve_right hf⟩
  · next h => exact mem_snoc.trans (or_congr_right (and_iff_left fun hf => h (.inr hf)).symm)

theorem closeClient_lost (s : State) (sid : Nat) :
    sid ∈ (closeClient s sid).inflight ∨ sid ∈ s.fired :=
  (Classical.em (sid ∈ s.fired)).symm.imp_left fun hf => mem_closeClient.mpr (.inr ⟨rfl, hf⟩)

theorem alive_iff {s : State} :
    alive s = true ↔ s.started = true ∧ s.cur ∉ s.inflight ∧ s.cur ∉ s.fired := by
  simp [alive, and_assoc]

theorem closeStub_started (s : State) : (closeStub s).started = false := by
  unfold closeStub; split
  · rfl
  · next h => simpa using h

theorem run_eq (v : Variant) (s : State) (h : List Event) : run v s h = h.foldlM (step? v) s :=
  Run.eq_foldlM (fun _ => rfl) (fun s e _ => by rw [run]; cases step? v s e <;> rfl) s h

theorem run_snoc {v : Variant} {s₀ s s' : State} {h : List Event} {e : Event}
    (hr : run v s₀ h = some s) (hs : step? v s e = some s') : run v s₀ (h ++ [e]) = some s' :=
  (Run.append (run_eq v)).2 ⟨s, hr, (Run.singleton (run_eq v)).2 hs⟩

theorem run_drain {v : Variant} {P : State → Prop} {f : State → List Nat} {ev : Nat → Event}
    (hstep : ∀ s x, P s → x ∈ f s → ∃ s', step? v s (ev x) = some s' ∧ P s' ∧ f s' = (f s).erase x)
    {s : State} (hp : P s) : ∃ s', run v s ((f s).map ev) = some s' ∧ P s' ∧ f s' = [] := by
  induction hf : f s generalizing s with
  | nil => exact ⟨s, rfl, hp, hf⟩
  | cons x rest ih =>
    obtain ⟨s1, h1, hp1, hf1⟩ := hstep s x hp (hf ▸ .head rest)
    obtain ⟨s', h2, hp', hf'⟩ := ih hp1 (by rw [hf1, hf, List.erase_cons_head])
    exact ⟨s', (Run.fire (run_eq v) h1).trans h2, hp', hf'⟩

theorem step_start {v : Variant} {s : State} (hw : s.wedged = false) (o : Script) (r : StartRes) :
    step? v s (.start o r) = startStep v s o r := by
  simp [step?, hw]

theorem attempt_cases {v : Variant} {s1 s' : State} {o : Script} {r : StartRes}
    (h : attempt v s1 o r = some s') :
    ((∃ k, r = .err k) ∧ s' = failStart v { s1 with cur := s1.cur + 1 }) ∨
    (o = .ok ∧ r = .ok ∧ s' = establish { s1 with cur := s1.cur + 1 }) ∨
    (o = .dropLate ∧ r = .ok ∧ s' = establish (lose { s1 with cur := s1.cur + 1 })) ∨
    ((v.raceClosed = false ∨ o = .stall) ∧ r = .blocked ∧
      (s' = { lose { s1 with cur := s1.cur + 1 } with wedged := true } ∨
       s' = { ({ s1 with cur := s1.cur + 1 } : State) with wedged := true })) := by
  -- what `attempt` returns, script by script (`s2`: the state with the new session)
  unfold attempt at h
  cases o with
  | dialFail => cases h                        -- nothing
  | refuse | noAnswer | dropReg => grind       -- `err register`: `failStart v s2`
  | dropCfg => grind     -- `err register`; `err closed` (race) or blocked
  | dropLate => grind    -- `ok`: `establish (lose s2)`; else as `dropCfg`
  | cfgErr => grind                            -- `err configure`, `err register`
  | ok => grind                                -- `ok`: `establish s2`
  | stall => grind                             -- blocked: `s2` wedged

/-- `o'`: an attempt on a connection whose other end is gone goes as if the runtime end dropped
    it during registration; `pre`: the pre-made connection is taken into use. -/
theorem startStep_cases {v : Variant} {s s' : State} {o : Script} {r : StartRes}
    (h : startStep v s o r = some s') :
    (s' = s ∧ ∃ k, r = .err k ∧ (k = .already ∨ s.started = false)) ∨
    (s.started = false ∧ ∃ s1 o', (o' = o ∨ o' = .dropReg) ∧ attempt v s1 o' r = some s' ∧
      (s.conn ≠ none ∧ s1 = s ∨
       s.conn = none ∧ ∃ pre, s1 = { adopt s with preUsed := s.preUsed || pre })) := by
  have e0 : adopt s = { adopt s with preUsed := s.preUsed || false } := by simp [adopt]
  have e1 : ({ adopt s with preUsed := true } : State) =
      { adopt s with preUsed := s.preUsed || true } := by simp
  revert h
  fun_cases startStep v s o r <;> intro h
  case case1 hr =>  -- started: "already started"
    exact .inl ⟨(Option.some.inj h).symm, _, hr, .inl rfl⟩
  case case3 hs c hc =>  -- a connection is still recorded
    exact .inr ⟨Bool.eq_false_iff.mpr hs, s, _, by split <;> simp, h, .inl ⟨by simp [hc], rfl⟩⟩
  case case4 hs _ _ hr =>  -- used-up descriptor: "invalid socket"
    exact .inl ⟨(Option.some.inj h).symm, _, hr, .inr (Bool.eq_false_iff.mpr hs)⟩
  case case5 hs hc _ _ hr =>  -- used-up descriptor that names a socket again
    exact .inr ⟨Bool.eq_false_iff.mpr hs, adopt s, .dropReg, .inr rfl, by rw [← h, hr]; rfl,
      .inr ⟨hc, false, e0⟩⟩
  case case7 hs hc _ _ =>  -- the pre-made connection
    exact .inr ⟨Bool.eq_false_iff.mpr hs, _, _, by split <;> simp, h, .inr ⟨hc, true, e1⟩⟩
  case case8 hs _ _ _ _ hr =>  -- the dial fails
    exact .inl ⟨(Option.some.inj h).symm, _, hr, .inr (Bool.eq_false_iff.mpr hs)⟩
  case case10 hs hc _ _ _ =>  -- a connection is dialled
    exact .inr ⟨Bool.eq_false_iff.mpr hs, _, _, .inl rfl, h, .inr ⟨hc, false, e0⟩⟩
  -- `case2`, `case6`, `case9`: no such result
  all_goals cases h

/-- close notifications: at most one per session, pending (`inflight`) or delivered (`fired`) -/
structure Book (s : State) : Prop where
  inflRng : Rng s.inflight s.cur
  firedRng : Rng s.fired s.cur
  inflNodup : s.inflight.Nodup
  firedNodup : s.fired.Nodup
  disj : ∀ x ∈ s.inflight, x ∉ s.fired
  startedPos : s.started = true → 1 ≤ s.cur

/- `Book` reads `cur`, `inflight`, `fired` and `started` only: where an update leaves those
   fields as they are, `{ hb with }` carries `hb : Book s` over to the updated state. -/

theorem Book.init (src : ConnSrc) : Book (initWith src) := by
  -- nothing started, all lists empty
  constructor <;> simp [initWith, Rng]

section
variable {s : State}

theorem Book.closeClient (hb : Book s) {sid : Nat} (h1 : 1 ≤ sid) (h2 : sid ≤ s.cur) :
    Book (closeClient s sid) := by
  unfold Nri.StubSession.closeClient
  split
  · exact { hb with }
  · next hm =>
    refine { hb with inflRng := hb.inflRng.snoc h1 h2, disj := fun x hx => ?_,
                     inflNodup := nodup_snoc hb.inflNodup (fun h => hm (.inl h)) }
    rcases mem_snoc.mp hx with hx | rfl
    · exact hb.disj x hx
    · exact fun h => hm (.inr h)

/-- a new session begins -/
theorem Book.bump (hb : Book s) : Book { s with cur := s.cur + 1 } :=
  { hb with
    inflRng := hb.inflRng.mono (Nat.le_succ _)
    firedRng := hb.firedRng.mono (Nat.le_succ _)
    startedPos := fun _ => Nat.le_add_left 1 s.cur }

/-- a close notification runs -/
theorem Book.fire (hb : Book s) {sid : Nat} (hin : sid ∈ s.inflight) :
    Book { s with inflight := s.inflight.erase sid, fired := s.fired ++ [sid] } :=
  { hb with
    inflRng := hb.inflRng.erase sid
    firedRng := hb.firedRng.snoc (hb.inflRng sid hin).1 (hb.inflRng sid hin).2
    inflNodup := hb.inflNodup.erase sid
    firedNodup := nodup_snoc hb.firedNodup (hb.disj sid hin)
    disj := fun x hx hf => by
      obtain ⟨hne, hx⟩ := hb.inflNodup.mem_erase_iff.mp hx
      exact (mem_snoc.mp hf).elim (hb.disj x hx) hne }

theorem Book.closeStub (hb : Book s) : Book (closeStub s) := by
  unfold Nri.StubSession.closeStub
  split
  · next hs => exact { hb.closeClient (hb.startedPos hs) (Nat.le_refl _) with startedPos := nofun }
  · exact hb

theorem closeStub_inflight {sid : Nat} (h : sid ∈ s.inflight) :
    sid ∈ (closeStub s).inflight := by
  unfold closeStub
  split
  · exact mem_closeClient.mpr (.inl h)
  · exact h

end

theorem Book.step {v : Variant} {s s' : State} {e : Event} (hb : Book s)
    (h : step? v s e = some s') : Book s' := by
  revert h
  fun_cases step? v s e <;> intro h
  case case2 =>  -- start
    rcases startStep_cases h with ⟨rfl, _⟩ | ⟨_, s1, _, _, ha, hs1⟩
    · exact hb
    · have hb2 : Book { s1 with cur := s1.cur + 1 } := by
        rcases hs1 with ⟨_, rfl⟩ | ⟨_, _, rfl⟩
        · exact hb.bump
        · exact { hb.bump with }
      have hcl := hb2.closeClient (Nat.le_add_left 1 s1.cur) (Nat.le_refl _)
      rcases attempt_cases ha with ⟨_, rfl⟩ | ⟨_, _, rfl⟩ | ⟨_, _, rfl⟩ | ⟨_, _, rfl | rfl⟩
      · exact { hcl with }
      · exact { hb2 with startedPos := fun _ => Nat.le_add_left 1 s1.cur }
      · exact { hcl with startedPos := fun _ => Nat.le_add_left 1 s1.cur }
      · exact { hcl with }
      · exact { hb2 with }
  -- the refused events go; in the others `s'` becomes the next state
  all_goals cases h
  case case4 => exact hb.closeStub  -- stop
  case case5 ha =>  -- connLost
    simp only [Bool.and_eq_true] at ha
    exact { hb.closeClient (hb.startedPos (alive_iff.mp ha.2).1) (Nat.le_refl _) with }
  case case8 sid hin s1 =>  -- closeNotify
    simp only [Bool.or_eq_true, not_or, Bool.not_eq_true', decide_eq_false_iff_not,
      Decidable.not_not] at hin
    simp only [s1]
    split
    · exact hb.closeStub.fire (closeStub_inflight hin.2)
    · exact hb.fire hin.2
  case case10 => exact hb  -- wait true
  case case12 => exact { hb with }  -- wait false
  case case14 => exact { hb with }  -- waitRet
  case case16 => exact hb  -- dispatch

theorem Book.run {v : Variant} {s s' : State} {h : List Event} (hb : Book s)
    (hr : run v s h = some s') : Book s' :=
  Run.induct (run_eq v) (fun hb => hb.step) hb hr

end Nri.StubSession
