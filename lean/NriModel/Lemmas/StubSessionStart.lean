/-
Exact characterisation of the results of `Start` in the repaired machine.
-/
import NriModel.Lemmas.StubSession

namespace Nri.StubSession

/-- `attempt` tests its result against a fixed list of values, script by script; that list is
    `startResults`. -/
theorem attempt_iff (s1 : State) (o : Script) (r : StartRes) (ho : o ≠ .dialFail) :
    (attempt fixed s1 o r).isSome = true ↔ r ∈ startResults o := by
  have ite_some {c : Prop} [Decidable c] (x : State) (y : Option State) :
      (if c then some x else y).isSome = true ↔ c ∨ y.isSome = true := by
    split <;> simp [*]
  cases o with
  | dialFail => exact absurd rfl ho
  | refuse | noAnswer | dropReg => simp [attempt, startResults, ite_some]
  | dropCfg => simp [attempt, startResults, ite_some, fixed]
  | dropLate => simp [attempt, startResults, ite_some, fixed]
  | cfgErr => simp [attempt, startResults, ite_some]
  | ok => simp [attempt, startResults, ite_some]
  | stall => simp [attempt, startResults, ite_some]

/-- In a state in which `stub.conn` is nil whenever the stub is not started (every reachable
    state), `Start` has exactly the results `startPossible`. -/
theorem start_iff {s : State} (hw : s.wedged = false) (hc : s.started = false → s.conn = none)
    (o : Script) (r : StartRes) :
    (step? fixed s (.start o r)).isSome = true ↔ r ∈ startPossible s o := by
  rw [step_start hw]
  unfold startPossible
  -- in each branch of `startStep` the guards select the matching branch of `startPossible`
  fun_cases startStep fixed s o r <;>
    simp only [*, if_true, if_false, Bool.false_eq_true, and_self, and_false, ne_eq, not_false_eq_true]
  case case1 => simp   -- started, `err already`
  case case2 => simpa  -- started, other
  case case3 hs c hx =>  -- a recorded connection: excluded by `hc`
    exact absurd (hc (Bool.eq_false_iff.mpr hs)) (by simp [hx])
  case case4 => simp      -- used-up descriptor, `err preconn`
  case case5 => simp      -- used-up descriptor, `err register`
  case case6 => simp [*]  -- used-up descriptor, other
  case case7 =>  -- the pre-made connection
    exact attempt_iff _ (if o = .dialFail then .dropReg else o) _ (by split <;> simp_all)
  case case8 => simp [startResults]   -- the dial fails, `err dial`
  case case9 => simpa [startResults]  -- the dial fails, other
  case case10 => exact attempt_iff _ _ _ ‹_›  -- a connection is dialled

theorem startPossible_ne_nil (s : State) (o : Script) : startPossible s o ≠ [] := by
  have (o : Script) : startResults o ≠ [] := by cases o <;> nofun
  unfold startPossible
  split
  · nofun
  · split
    · nofun
    · split
      · exact this _
      · exact this o

theorem start_err_not_started {s s' : State} {o : Script} {k : ErrKind} (hw : s.wedged = false)
    (hc : s.started = false → s.conn = none)
    (h : step? fixed s (.start o (.err k)) = some s') (hk : k ≠ .already) : s'.started = false := by
  rcases start_cases hc (step_start hw o _ ▸ h) with ⟨rfl, hk' | hs⟩ | ⟨hs, _, rfl⟩
  · exact absurd hk' hk
  · exact hs
  · exact hs

end Nri.StubSession
