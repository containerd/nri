/-
Soundness of the acceptance automaton the C16 driver runs on observed histories
(`applyObs`, `loseConn`, `silent`, `closure` in `NriModel/StubSession.lean`): every state it
can ever hold is a state of the repaired session machine reached by a run of `step? fixed`
from the initial state — so the theorems of `Props/C16.lean` apply to whatever the automaton
accepts. (The driver's record loop only filters these sets and feeds them back in.)
-/
import NriModel.Lemmas.StubSession

namespace Nri.StubSession

/-- Reachable by any history, also one with a stalling runtime end (the driver's excluded
    records hold such); `closure_reach0` is the automaton's soundness for them. -/
def Reach0 (s : State) : Prop :=
  ∃ (src : ConnSrc) (h : List Event), run fixed (initWith src) h = some s

theorem Reach0.step {s s' : State} {e : Event} (h : Reach0 s) (hs : step? fixed s e = some s') :
    Reach0 s' := by
  obtain ⟨src, hist, hr⟩ := h
  exact ⟨src, hist ++ [e], run_snoc hr hs⟩

theorem Reach.reach0 {s : State} (h : Reach s) : Reach0 s := by
  obtain ⟨src, hist, _, hr⟩ := h; exact ⟨src, hist, hr⟩

def OpObs.inDomain : OpObs → Bool
  | .start .stall _ _ _ _ => false
  | _ => true

/-- Label faithfulness: an observed `Start` is only ever explained by a `start` step carrying
    exactly the observed runtime behaviour and the observed result, from a state in which the
    model predicts the observed dial / session number / connection number. -/
theorem applyObs_start {o : Script} {r : StartRes} {d : Bool} {sid conn : Nat} {s s' : State}
    (hm : s' ∈ applyObs (.start o r d sid conn) s) :
    step? fixed s (.start o r) = some s' ∧ wouldDial s = d ∧
    (if s'.cur = s.cur + 1 then s'.cur else 0) = sid ∧
    (if s'.dials = s.dials + 1 then s'.dials else 0) = conn := by
  simp only [applyObs] at hm
  split at hm
  · simp at hm
  · next s1 hs1 =>
    by_cases hc : (wouldDial s = d ∧ (if s1.cur = s.cur + 1 then s1.cur else 0) = sid ∧
        (if s1.dials = s.dials + 1 then s1.dials else 0) = conn)
    · obtain rfl : s' = s1 := by simpa [hc] using hm
      exact ⟨hs1, hc⟩
    · simp [hc] at hm

theorem applyObs_step {p : OpObs} {s s' : State} (hm : s' ∈ applyObs p s) :
    s' = s ∨ ∃ e, step? fixed s e = some s' ∧ (p.inDomain = true → inDomain e = true) := by
  cases p with
  | start o r d sid conn => exact .inr ⟨_, (applyObs_start hm).1, by cases o <;> exact id⟩
  | stop => exact .inr ⟨.stop, by simpa [applyObs] using hm, fun _ => rfl⟩
  | wait b => exact .inr ⟨.wait b, by simpa [applyObs] using hm, fun _ => rfl⟩
  | lose conn =>
    obtain rfl : s' = loseConn conn s := by simpa [applyObs] using hm
    unfold loseConn
    split
    · split
      · next hs => exact .inr ⟨_, hs, fun _ => rfl⟩
      · exact .inl rfl
    · exact .inl rfl
  | nop => exact .inl (by simpa [applyObs] using hm)
  | request ok => exact .inr ⟨.dispatch ok, by simpa [applyObs] using hm, fun _ => rfl⟩
  | impossible => simp [applyObs] at hm

theorem releaseAny_faithful {s s' : State} (hm : s' ∈ releaseAny s) :
    ∃ sid, sid ∈ s.waiting ∧ step? fixed s (.waitRet sid) = some s' := by
  simp only [releaseAny, List.mem_filterMap] at hm
  obtain ⟨sid, h1, h2⟩ := hm
  exact ⟨sid, by simpa using h1, h2⟩

theorem releaseAny_reach {s s' : State} (h : Reach s) (hm : s' ∈ releaseAny s) : Reach s' := by
  obtain ⟨sid, _, hs⟩ := releaseAny_faithful hm
  exact h.step (by rfl) hs

theorem mem_dedup {l : List Cfg} {c : Cfg} (h : c ∈ dedup l) : c ∈ l := by
  have : ∀ (l acc : List Cfg),
      c ∈ l.foldl (fun acc c => if acc.contains c then acc else acc ++ [c]) acc → c ∈ acc ∨ c ∈ l := by
    intro l
    induction l with
    | nil => exact fun _ h => .inl h
    | cons x xs ih =>
      intro acc h
      rcases ih _ h with h1 | h1
      · dsimp only at h1
        split at h1
        · exact .inl h1
        · exact (List.mem_append.mp h1).imp_right fun hx => by simp_all
      · exact .inr (List.mem_cons_of_mem x h1)
  simpa using this l [] h

def AllCfg (P : State → Prop) (cs : List Cfg) : Prop := ∀ c ∈ cs, P c.s

/-- A silent move is either the delivery of one pending close notification (the pending
    operation stays pending) or the pending operation taking effect — once: only from a
    configuration in which it had not, into one in which it has. -/
theorem silent_faithful {p : Option OpObs} {c c' : Cfg} (hm : c' ∈ silent p c) :
    (∃ sid, sid ∈ c.s.inflight ∧ step? fixed c.s (.closeNotify sid) = some c'.s ∧
        c'.applied = c.applied) ∨
    (∃ pd, p = some pd ∧ c.applied = false ∧ c'.applied = true ∧ c'.s ∈ applyObs pd c.s) := by
  simp only [silent, List.mem_append, List.mem_filterMap] at hm
  rcases hm with ⟨sid, h1, h2⟩ | h2
  · obtain ⟨s', hs', rfl⟩ := Option.map_eq_some_iff.mp h2
    exact .inl ⟨sid, h1, hs', rfl⟩
  · cases p with
    | none => simp at h2
    | some pd =>
      simp only at h2
      split at h2
      · simp at h2
      · next hna =>
        obtain ⟨s', hs', rfl⟩ := List.mem_map.mp h2
        exact .inr ⟨pd, rfl, by simpa using hna, rfl, hs'⟩

/-- The automaton keeps `P` if the steps of a class `D` of events keep it, `D` holding the close
    notifications and the step of the pending observation. -/
theorem closure_sound {P : State → Prop} {D : Event → Prop} {p : Option OpObs}
    (hstep : ∀ {s s' e}, P s → D e → step? fixed s e = some s' → P s')
    (hn : ∀ sid, D (.closeNotify sid))
    (hp : ∀ {pd e}, p = some pd → (pd.inDomain = true → inDomain e = true) → D e) :
    ∀ (fuel : Nat) (cs : List Cfg), AllCfg P cs → AllCfg P (closure p cs fuel) := by
  intro fuel
  induction fuel with
  | zero => exact fun cs h => h
  | succ n ih =>
    intro cs h
    simp only [closure]
    split
    · exact h
    · refine ih _ fun c hc => ?_
      rcases List.mem_append.mp (mem_dedup hc) with h1 | h1
      · exact h c h1
      · obtain ⟨c0, h0, h1⟩ := List.mem_flatMap.mp h1
        rcases silent_faithful h1 with ⟨sid, _, hs, _⟩ | ⟨pd, hpd, _, _, ho⟩
        · exact hstep (h c0 h0) (hn sid) hs
        · rcases applyObs_step ho with he | ⟨e, he, hde⟩
          · exact he ▸ h c0 h0
          · exact hstep (h c0 h0) (hp hpd hde) he

theorem closure_reach0 (p : Option OpObs) (fuel : Nat) (cs : List Cfg)
    (h : AllCfg Reach0 cs) : AllCfg Reach0 (closure p cs fuel) :=
  closure_sound (D := fun _ => True) (fun hs _ he => hs.step he) (fun _ => trivial)
    (fun _ _ => trivial) fuel cs h

theorem init_reach (src : ConnSrc) : Reach (initWith src) := ⟨src, [], by simp, rfl⟩

end Nri.StubSession
