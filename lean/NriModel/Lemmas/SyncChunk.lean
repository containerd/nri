/-
Property C09 (split synchronisation), the parts that do not involve the sender's loop: what
the stub does with a well-flagged list of chunks (`stubRun_wellFlagged`), soundness of the
executable plan acceptor (`accepts_sound`), and what `plan` and `activateExternal` compute.
-/
import NriModel.SyncChunk

namespace Nri.SyncChunk

variable {α β υ ε σ : Type}

def accPods (st : RState α β) : List α := match st.acc with | none => [] | some (ps, _) => ps
def accCtrs (st : RState α β) : List β := match st.acc with | none => [] | some (_, cs) => cs

def handlerReply (f : List α → List β → Except ε (List υ)) (ps : List α) (cs : List β) :
    Except ε (Reply υ) :=
  match f ps cs with
  | .ok u => .ok { update := u, more := false }
  | .error e => .error e

variable (f : List α → List β → Except ε (List υ))

theorem stubRPC_more (st : RState α β) (c : Chunk α β) (hm : c.more = true) :
    stubRPC (some f) st c =
      (⟨some (accPods st ++ c.pods, accCtrs st ++ c.ctrs), st.calls⟩, .ok ⟨[], true⟩) := by
  simp only [stubRPC, collectSync, hm, if_true]
  rcases st with ⟨_ | ⟨ps, cs⟩, calls⟩ <;> rfl

theorem stubRPC_last (st : RState α β) (c : Chunk α β) (hm : c.more = false) :
    stubRPC (some f) st c =
      (⟨none, st.calls ++ [(accPods st ++ c.pods, accCtrs st ++ c.ctrs)]⟩,
       handlerReply f (accPods st ++ c.pods) (accCtrs st ++ c.ctrs)) := by
  simp only [stubRPC, hm, Bool.false_eq_true, if_false]
  rcases st with ⟨_ | ⟨ps, cs⟩, calls⟩
  · simp only [deliverSync, handlerReply, accPods, accCtrs, List.nil_append]
    cases f c.pods c.ctrs <;> rfl
  · simp only [deliverSync, handlerReply, accPods, accCtrs]
    cases f (ps ++ c.pods) (cs ++ c.ctrs) <;> rfl

theorem stubRun_cons (h : Handler α β υ ε) (st : RState α β) (c : Chunk α β)
    (rest : List (Chunk α β)) :
    stubRun h st (c :: rest) =
      ((stubRun h (stubRPC h st c).1 rest).1, (stubRPC h st c).2 :: (stubRun h (stubRPC h st c).1 rest).2) := rfl

theorem stubRun_wellFlagged (chunks : List (Chunk α β)) (st : RState α β) (h : WellFlagged chunks) :
    stubRun (some f) st chunks =
      (⟨none, st.calls ++ [(accPods st ++ allPods chunks, accCtrs st ++ allCtrs chunks)]⟩,
       List.replicate (chunks.length - 1) (.ok ⟨[], true⟩) ++
         [handlerReply f (accPods st ++ allPods chunks) (accCtrs st ++ allCtrs chunks)]) := by
  induction chunks generalizing st with
  | nil => exact h.elim
  | cons c rest ih =>
    rw [stubRun_cons]
    cases rest with
    | nil =>
      rw [stubRPC_last f st c h]
      simp only [stubRun, allPods, allCtrs, List.append_nil]
      rfl
    | cons c' rest' =>
      rw [stubRPC_more f st c h.1, ih _ h.2]
      simp only [accPods, accCtrs, allPods, allCtrs, List.append_assoc]
      rfl

theorem stubRun_more_calls (chunks : List (Chunk α β)) (st : RState α β)
    (hm : ∀ c ∈ chunks, c.more = true) : (stubRun (some f) st chunks).1.calls = st.calls := by
  induction chunks generalizing st with
  | nil => rfl
  | cons c rest ih =>
    rw [stubRun_cons, stubRPC_more f st c (hm c (List.mem_cons_self ..))]
    exact ih _ fun x hx => hm x (List.mem_cons_of_mem _ hx)

theorem accepts_sound [DecidableEq α] [DecidableEq β] (fits : Chunk α β → Bool)
    {ps : List α} {cs : List β} {pl : List (Chunk α β)} (h : accepts fits ps cs pl = true) :
    ValidPlan (fun c => fits c = true) ps cs pl := by
  fun_induction accepts fits ps cs pl with
  | case1 => cases h
  | case2 ps cs c =>
    obtain ⟨p, k, m⟩ := c
    simp only [Bool.and_eq_true, Bool.not_eq_true', decide_eq_true_eq] at h
    obtain ⟨⟨⟨rfl, rfl⟩, rfl⟩, hf⟩ := h
    exact .last _ _ hf
  | case3 ps cs c rest _ ih =>
    obtain ⟨p, k, m⟩ := c
    simp only [Bool.and_eq_true, decide_eq_true_eq] at h
    obtain ⟨⟨⟨⟨⟨⟨⟨rfl, hpl⟩, hcl⟩, hp⟩, hc⟩, hpos⟩, hf⟩, hrest⟩ := h
    rw [hp, hc] at hf ⊢
    exact .more ps cs p.length k.length _ hpl hcl hpos hf (ih hrest)

theorem plan_append (a b : List (Ev α β υ)) : plan (a ++ b) = plan a ++ plan b := by
  induction a with
  | nil => rfl
  | cons e a ih => cases e <;> simp only [List.cons_append, plan, ih]

theorem plan_replicate_sent (n : Nat) (c : Chunk α β) (r : Reply υ) :
    plan (List.replicate n (Ev.sent c r)) = List.replicate n c := by
  induction n with
  | zero => rfl
  | succ n ih => rw [List.replicate_succ, plan, ih, List.replicate_succ]

theorem activateExternal_ne {π : Type} {plugins : List π} {p : π} {o : Outcome υ ε}
    (h : activateExternal plugins p o ≠ plugins) : ∃ u, o = .done u := by
  cases o with
  | done u => exact ⟨u, rfl⟩
  | _ => exact absurd rfl h

end Nri.SyncChunk
