/-
The patched `recalcObjsPerSyncMsg` (`policyFixed`) satisfies the abstract condition
`Shrinks` the sender theorems are stated for.
-/
import NriModel.SyncChunk

namespace Nri.SyncChunk

theorem scale_le (x M L : Nat) (h : M ≤ L) : scale x M L ≤ x := by
  unfold scale
  split
  · omega
  · exact Nat.div_le_of_le_mul (Nat.mul_comm x L ▸ Nat.mul_le_mul_left x h)

theorem scale_lt (x M L : Nat) (h : M < L) (hx : 0 < x) : scale x M L < x := by
  unfold scale
  split
  · omega
  · exact (Nat.div_lt_iff_lt_mul (by omega)).mpr (Nat.mul_lt_mul_of_pos_left h hx)

theorem keepPos_pos (x y : Nat) (hx : 0 < x) : 0 < keepPos x y := by
  rw [keepPos, if_pos hx]
  omega

theorem keepPos_scale_le (x M L : Nat) (h : M ≤ L) : keepPos x (scale x M L) ≤ x := by
  have := scale_le x M L h
  unfold keepPos
  split <;> omega

/-- a share of two or more objects does get smaller; a share of one stays one -/
theorem keepPos_scale_lt (x M L : Nat) (h : M < L) (hx : 2 ≤ x) : keepPos x (scale x M L) < x := by
  have := scale_lt x M L h (by omega)
  unfold keepPos
  split <;> omega

/-- `2 ≤ m` is for the fall-back branch, which proposes `m / 2` of each kind: that must not be
    zero. -/
theorem policyFixed_some {m p c M L p' c' : Nat} (hm : 2 ≤ m)
    (h : policyFixed m p c M L = some (p', c')) :
    p' + c' < p + c ∧ (0 < p → 0 < p') ∧ (0 < c → 0 < c') := by
  unfold policyFixed at h
  by_cases h1 : p + c ≤ m
  · rw [if_pos h1] at h
    cases h
  by_cases h2 : L = 0 ∨ M = 0 ∨ L ≤ M
  · rw [if_neg h1, if_pos h2] at h
    cases h
  rw [if_neg h1, if_neg h2] at h
  have hML : M < L := by omega
  dsimp only at h
  split at h
  · cases h
    have hpos : 0 < m / 2 := Nat.div_pos hm (by decide)
    exact ⟨by omega, fun _ => hpos, fun _ => hpos⟩
  · cases h
    -- `m < p + c` and `2 ≤ m`: one of the two shares is at least two
    have hp := keepPos_scale_le p M L (Nat.le_of_lt hML)
    have hc := keepPos_scale_le c M L (Nat.le_of_lt hML)
    have hp' := keepPos_scale_lt p M L hML
    have hc' := keepPos_scale_lt c M L hML
    exact ⟨by omega, keepPos_pos p _, keepPos_pos c _⟩

theorem policyFixed_shrinks (m : Nat) (hm : 2 ≤ m) : Shrinks m (policyFixed m) where
  decreases _ _ _ _ _ _ h := (policyFixed_some hm h).1
  positive _ _ _ _ _ _ h := (policyFixed_some hm h).2
  gives_up p c M L hM hML h := by
    unfold policyFixed at h
    by_cases h1 : p + c ≤ m
    · exact h1
    · have h2 : ¬(L = 0 ∨ M = 0 ∨ L ≤ M) := by omega
      rw [if_neg h1, if_neg h2] at h
      dsimp only at h
      split at h <;> cases h

/-- The shrink policy of the code as it stands does NOT keep a non-zero share. `8` is the
    code's `minObjsPerMsg`. -/
theorem policyUnfixed_not_positive : ¬ Shrinks 8 (policyUnfixed 8) := by
  intro h
  -- the first refusal of the second witness of `Props/C09.lean`: 2 pods and 40 containers per
  -- message, limit 4000, message length 2·1 + 40·300 = 12002; the pods' share becomes 0
  have := (h.positive 2 40 4000 12002 0 13 (by decide)).1 (by decide)
  omega

end Nri.SyncChunk
