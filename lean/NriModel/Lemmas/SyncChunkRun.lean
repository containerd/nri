/-
Runs of the repaired loop (property C09): it gives up only on a small oversized window,
what it does against the stub behind the transport, and how a run depends on its fuel.
-/
import NriModel.Lemmas.SyncChunkSender

namespace Nri.SyncChunk

variable {α β υ ε σ : Type}

section
variable {E : Env α β υ ε σ} {m : Nat} (hπ : Shrinks m E.policy) (hlim : 0 < E.limit)
  {pods : List α} {ctrs : List β} {w : σ} {s : SState α β} {r : Run α β υ ε σ}
include hπ hlim

theorem giveUp_small (hG : Good s)
    (hp : s.podsLeft <:+ pods) (hk : s.ctrsLeft <:+ ctrs) (hlt : E.limit < E.size (expected s))
    (hpol : E.policy s.podsPer s.ctrsPer E.limit (E.size (expected s)) = none) :
    (expected s).pods <:+: pods ∧ (expected s).ctrs <:+: ctrs ∧ (expected s).count ≤ m ∧
      E.limit < E.size (expected s) :=
  ⟨(List.take_prefix _ _).isInfix.trans hp.isInfix, (List.take_prefix _ _).isInfix.trans hk.isInfix,
    expected_count hG ▸ hπ.gives_up _ _ _ _ hlim hlt hpol, hlt⟩

/-- The second disjunct: `recalcObjsPerSyncMsg` also answers a ResourceExhausted error of the
    plugin end with "failed to synchronize plugin with split messages". -/
theorem run_tooLarge (h : Runs E w s r) (hp : s.podsLeft <:+ pods) (hk : s.ctrsLeft <:+ ctrs)
    (ho : r.out = .failed .tooLarge) :
    (∃ c : Chunk α β, c.pods <:+: pods ∧ c.ctrs <:+: ctrs ∧ c.count ≤ m ∧ E.limit < E.size c) ∨
    (∃ c, Ev.errored c ∈ r.evs) := by
  induction h with
  | stall => cases ho
  | done => cases ho
  | noSplit => cases ho
  | peerErr => exact .inr ⟨_, List.mem_singleton_self _⟩
  | giveUp hG hlt hpol => exact .inl ⟨_, giveUp_small hπ hlim hG hp hk hlt hpol⟩
  | advance _ _ _ _ _ _ _ ih =>
    exact (ih ((List.drop_suffix _ _).trans hp) ((List.drop_suffix _ _).trans hk) ho).imp_right
      (Exists.imp fun _ => List.mem_cons_of_mem _)
  | shrink _ _ _ _ _ _ _ ih =>
    exact (ih hp hk ho).imp_right (Exists.imp fun _ => List.mem_cons_of_mem _)

end

/-- what the runtime gets once the handler has been called with the whole state: its updates if
    the reply fits, the deadline if the reply is too large and gets dropped, the handler's error
    otherwise (reported with the "split messages" text when it carries ResourceExhausted) -/
def wireOutcome (rs : Reply υ → Nat) (rl : Nat) (hx : ε → Bool)
    (f : List α → List β → Except ε (List υ)) (pods : List α) (ctrs : List β) :
    Outcome υ (WireErr ε) :=
  match f pods ctrs with
  | .ok u => if rs ⟨u, false⟩ ≤ rl then .done u else .failed (.peer .replyLost)
  | .error e => .failed (if hx e then .tooLarge else .peer (.handler e))

variable {rs : Reply υ → Nat} {rl : Nat} {hx : ε → Bool} {f : List α → List β → Except ε (List υ)}
  {pods : List α} {ctrs : List β}

theorem wireOutcome_ok {u : List υ} (hx : ε → Bool) (hu : f pods ctrs = .ok u) :
    wireOutcome rs rl hx f pods ctrs =
      if rs ⟨u, false⟩ ≤ rl then .done u else .failed (.peer .replyLost) := by
  rw [wireOutcome, hu]

theorem wireOutcome_eq_done {u : List υ}
    (h : wireOutcome rs rl hx f pods ctrs = .done u) : f pods ctrs = .ok u ∧ rs ⟨u, false⟩ ≤ rl := by
  unfold wireOutcome at h
  split at h
  · split at h
    · cases h
      exact ⟨‹_›, ‹_›⟩
    · cases h
  · cases h

theorem wireStub_more {w : RState α β} {c : Chunk α β} (hecho : rs ⟨[], true⟩ ≤ rl)
    (hm : c.more = true) :
    wireStub rs rl (some f) w c =
      (⟨some (accPods w ++ c.pods, accCtrs w ++ c.ctrs), w.calls⟩, .ok ⟨[], true⟩) := by
  simp only [wireStub, stubRPC_more f w c hm, hecho, if_true]

theorem wireStub_last {w w' : RState α β} {c : Chunk α β} {res} (hm : c.more = false)
    (hx : ε → Bool) : wireStub rs rl (some f) w c = (w', res) →
    w' = ⟨none, w.calls ++ [(accPods w ++ c.pods, accCtrs w ++ c.ctrs)]⟩ ∧
      wireOutcome rs rl hx f (accPods w ++ c.pods) (accCtrs w ++ c.ctrs) =
        match res with
        | .ok r => .done r.update
        | .error e => .failed (if wireExhausted hx e then .tooLarge else .peer e) := by
  simp only [wireStub, stubRPC_last f w c hm, handlerReply, wireOutcome]
  cases f (accPods w ++ c.pods) (accCtrs w ++ c.ctrs) with
  | error e =>
    intro h
    cases h
    exact ⟨rfl, rfl⟩
  | ok u =>
    dsimp only
    split
    · intro h
      cases h
      exact ⟨rfl, rfl⟩
    · intro h
      cases h
      exact ⟨rfl, rfl⟩

/-- `C09_delivery` from any stub state whose accumulator, with what the loop has left, makes up
    `pods` and `ctrs`, and for runs cut off by fuel as well. -/
theorem run_wire {E : Env α β υ (WireErr ε) (RState α β)} {m : Nat} (hπ : Shrinks m E.policy)
    (hlim : 0 < E.limit) (hecho : rs ⟨[], true⟩ ≤ rl)
    (hpeer : E.peer = wireStub rs rl (some f)) (hex : E.exhausted = wireExhausted hx)
    {w : RState α β} {s : SState α β}
    {r : Run α β υ (WireErr ε) (RState α β)} (h : Runs E w s r)
    (h2 : accPods w ++ s.podsLeft = pods) (h3 : accCtrs w ++ s.ctrsLeft = ctrs) :
    (r.out = .failed .tooLarge ∧ r.world.calls = w.calls ∧
      ∃ c : Chunk α β, c.pods <:+: pods ∧ c.ctrs <:+: ctrs ∧ c.count ≤ m ∧ E.limit < E.size c) ∨
    (r.out = .outOfFuel ∧ r.world.calls = w.calls) ∨
    (r.out = wireOutcome rs rl hx f pods ctrs ∧ r.world.calls = w.calls ++ [(pods, ctrs)] ∧
      r.world.acc = none) := by
  -- the last chunk carries all that is left: the handler is called with the whole state
  have last : ∀ {w : RState α β} {s : SState α β} {w' res}, Good s →
      accPods w ++ s.podsLeft = pods → accCtrs w ++ s.ctrsLeft = ctrs →
      (expected s).more = false → E.peer w (expected s) = (w', res) →
      w' = ⟨none, w.calls ++ [(pods, ctrs)]⟩ ∧ wireOutcome rs rl hx f pods ctrs =
        match res with
        | .ok r => .done r.update
        | .error e => .failed (if E.exhausted e then .tooLarge else .peer e) := by
    intro w s w' res hG h2 h3 hm hp
    rw [hpeer] at hp
    have h := wireStub_last hm hx hp
    rwa [expected_more_false hG hm, h2, h3, ← hex] at h
  induction h with
  | stall => exact .inr (.inl ⟨rfl, rfl⟩)
  | done r hG hm _ hp =>
    obtain ⟨rfl, ho⟩ := last hG h2 h3 hm hp
    exact .inr (.inr ⟨ho.symm, rfl, rfl⟩)
  | noSplit r _ hm _ hp hr =>
    rw [hpeer, wireStub_more hecho hm] at hp
    cases hp
    cases hr
  | @peerErr w s w' e hG hp =>
    cases hm : (expected s).more with
    | true =>
      rw [hpeer, wireStub_more hecho hm] at hp
      cases hp
    | false =>
      obtain ⟨rfl, ho⟩ := last hG h2 h3 hm hp
      exact .inr (.inr ⟨ho.symm, rfl, rfl⟩)
  | giveUp hG hlt hpol =>
    exact .inl ⟨rfl, rfl, _, giveUp_small hπ hlim hG ⟨_, h2⟩ ⟨_, h3⟩ hlt hpol⟩
  | @advance w s _ r _ hG hm _ hp _ _ ih =>
    rw [hpeer, wireStub_more hecho hm] at hp
    cases hp
    -- what the stub has collected and what is left still make up the whole state
    refine ih ?_ ?_
    · show (accPods w ++ s.podsLeft.take s.podsPer) ++ s.podsLeft.drop s.podsPer = pods
      rw [List.append_assoc, List.take_append_drop, h2]
    · show (accCtrs w ++ s.ctrsLeft.take s.ctrsPer) ++ s.ctrsLeft.drop s.ctrsPer = ctrs
      rw [List.append_assoc, List.take_append_drop, h3]
  | shrink _ _ _ _ _ _ _ ih => exact ih h2 h3

theorem run_noHandler {E : Env α β υ (WireErr ε) (RState α β)}
    (hecho : ∀ b, rs ⟨[], b⟩ ≤ rl) (hpeer : E.peer = wireStub rs rl (none : Handler α β υ ε))
    {w : RState α β} {s : SState α β} {r : Run α β υ (WireErr ε) (RState α β)} (h : Runs E w s r) :
    r.world = w ∧ (r.out = .done [] ∨ r.out = .failed .tooLarge ∨ r.out = .outOfFuel) := by
  have echo : ∀ {w w' : RState α β} {c : Chunk α β} {res}, E.peer w c = (w', res) →
      w' = w ∧ res = .ok ⟨[], c.more⟩ := by
    intro w w' c res hp
    rw [hpeer, wireStub, stubRPC] at hp
    simp only [hecho, if_true] at hp
    cases hp
    exact ⟨rfl, rfl⟩
  induction h with
  | stall => exact ⟨rfl, .inr (.inr rfl)⟩
  | done r _ _ _ hp =>
    obtain ⟨rfl, hr⟩ := echo hp
    cases hr
    exact ⟨rfl, .inl rfl⟩
  | noSplit r _ hm _ hp hr =>
    obtain ⟨_, h⟩ := echo hp
    cases h
    rw [hm] at hr
    cases hr
  | peerErr e _ hp => cases (echo hp).2
  | giveUp => exact ⟨rfl, .inr (.inl rfl)⟩
  | advance r _ _ _ hp _ _ ih =>
    obtain ⟨rfl, _⟩ := echo hp
    exact ih
  | shrink _ _ _ _ _ _ _ ih => exact ih

theorem run_add (E : Env α β υ ε σ) (k n : Nat) (w : σ) (s : SState α β) (w' : σ) (s' : SState α β)
    (h : stateAfter E k w s = some (w', s')) :
    (run E (k + n) w s).evs = (run E k w s).evs ++ (run E n w' s').evs ∧
    (run E (k + n) w s).out = (run E n w' s').out ∧
    (run E (k + n) w s).world = (run E n w' s').world := by
  fun_induction stateAfter E k w s with
  | case1 =>
    cases h
    rw [Nat.zero_add]
    exact ⟨rfl, rfl, rfl⟩
  | case2 => cases h
  | case3 k w s w1 evs s1 hstep ih =>
    rw [Nat.succ_eq_add_one, Nat.add_right_comm, run_succ, run_succ, hstep]
    obtain ⟨h1, h2, h3⟩ := ih h
    exact ⟨by simp only [h1, List.append_assoc], h2, h3⟩

theorem run_mono (E : Env α β υ ε σ) (n k : Nat) (w : σ) (s : SState α β)
    (h : (run E n w s).out ≠ .outOfFuel) : run E (n + k) w s = run E n w s := by
  fun_induction run E n w s with
  | case1 => exact absurd rfl h
  | case2 n w s w1 evs o hstep => rw [Nat.succ_eq_add_one, Nat.add_right_comm, run_succ, hstep]
  | case3 n w s w1 evs s1 hstep r ih =>
    rw [Nat.succ_eq_add_one, Nat.add_right_comm, run_succ, hstep]
    dsimp only
    rw [ih h]

theorem run_stuck (E : Env α β υ ε σ) (w : σ) (s : SState α β) (e : Ev α β υ)
    (h : step E w s = (w, [e], .next s)) (n : Nat) :
    run E n w s = ⟨List.replicate n e, .outOfFuel, w⟩ := by
  induction n with
  | zero => rfl
  | succ n ih =>
    rw [run_succ, h]
    simp only [ih, List.replicate_succ, List.singleton_append]

end Nri.SyncChunk
