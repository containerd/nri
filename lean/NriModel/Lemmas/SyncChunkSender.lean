/-
Sender-side lemmas for property C09: the loop invariant `Good`, the measure `mu`, and the
relation `Runs` holding of every run of the repaired loop from a state satisfying the
invariant. Everything about `run` is then an induction over `Runs`.
-/
import NriModel.Lemmas.SyncChunk

namespace Nri.SyncChunk

variable {α β υ ε σ : Type}

/-- `n` objects per message of a kind of which `l` remain. -/
structure Share (n l : Nat) : Prop where
  le : n ≤ l
  pos : 0 < l → 0 < n

theorem Share.advance {n l : Nat} (h : Share n l) : Share (min n (l - n)) (l - n) :=
  ⟨Nat.min_le_right _ _, fun hl => Nat.lt_min.mpr ⟨h.pos (Nat.lt_of_lt_of_le hl (Nat.sub_le _ _)), hl⟩⟩

theorem Share.clamp {n l n' : Nat} (h : Share n l) (hn : 0 < n → 0 < n') : Share (min n' l) l :=
  ⟨Nat.min_le_right _ _, fun hl => Nat.lt_min.mpr ⟨hn (h.pos hl), hl⟩⟩

/-- Loop invariant of the repaired `synchronize`. -/
structure Good (s : SState α β) : Prop where
  pods : Share s.podsPer s.podsLeft.length
  ctrs : Share s.ctrsPer s.ctrsLeft.length

/-- Termination measure. -/
def mu (s : SState α β) : Nat :=
  s.podsLeft.length + s.ctrsLeft.length + s.podsPer + s.ctrsPer

theorem good_init (pods : List α) (ctrs : List β) : Good (SState.init pods ctrs) :=
  ⟨⟨Nat.le_refl _, id⟩, ⟨Nat.le_refl _, id⟩⟩

theorem mu_init (pods : List α) (ctrs : List β) :
    mu (SState.init pods ctrs) < fuelBound pods ctrs := by
  simp only [mu, SState.init, fuelBound]
  omega

def advance (s : SState α β) : SState α β :=
  ⟨s.podsLeft.drop s.podsPer, s.ctrsLeft.drop s.ctrsPer,
   min s.podsPer (s.podsLeft.drop s.podsPer).length,
   min s.ctrsPer (s.ctrsLeft.drop s.ctrsPer).length⟩

variable {s : SState α β}

theorem good_advance (hG : Good s) : Good (advance s) := by
  constructor <;> simp only [advance, List.length_drop]
  · exact hG.pods.advance
  · exact hG.ctrs.advance

theorem expected_pods_length (h : s.podsPer ≤ s.podsLeft.length) :
    (expected s).pods.length = s.podsPer :=
  (List.length_take ..).trans (Nat.min_eq_left h)

theorem expected_ctrs_length (h : s.ctrsPer ≤ s.ctrsLeft.length) :
    (expected s).ctrs.length = s.ctrsPer :=
  (List.length_take ..).trans (Nat.min_eq_left h)

theorem expected_count (hG : Good s) : (expected s).count = s.podsPer + s.ctrsPer := by
  rw [Chunk.count, expected_pods_length hG.pods.le, expected_ctrs_length hG.ctrs.le]

theorem expected_more_false (hG : Good s) (h : (expected s).more = false) :
    expected s = ⟨s.podsLeft, s.ctrsLeft, false⟩ := by
  simp only [expected, Bool.or_eq_false_iff, decide_eq_false_iff_not, Nat.not_lt] at h
  simp only [expected, Nat.le_antisymm hG.pods.le h.1, Nat.le_antisymm hG.ctrs.le h.2,
    List.take_length, Nat.lt_irrefl, decide_false, Bool.or_self]

theorem count_pos (hG : Good s) (hm : (expected s).more = true) :
    0 < s.podsPer + s.ctrsPer := by
  simp only [expected, Bool.or_eq_true, decide_eq_true_eq] at hm
  rcases hm with h | h
  · exact Nat.add_pos_left (hG.pods.pos (Nat.zero_lt_of_lt h)) _
  · exact Nat.add_pos_right _ (hG.ctrs.pos (Nat.zero_lt_of_lt h))

theorem mu_advance (hG : Good s) (hm : (expected s).more = true) :
    mu (advance s) < mu s := by
  have h1 := hG.pods.le
  have h2 := hG.ctrs.le
  have h3 := count_pos hG hm
  have h4 := Nat.min_le_left s.podsPer (s.podsLeft.length - s.podsPer)
  have h5 := Nat.min_le_left s.ctrsPer (s.ctrsLeft.length - s.ctrsPer)
  simp only [mu, advance, List.length_drop]
  omega

theorem mu_shrink {p k : Nat} (h : p + k < s.podsPer + s.ctrsPer) :
    mu { s with podsPer := p, ctrsPer := k } < mu s := by
  simp only [mu]
  omega

theorem validPlan_last {fits : Chunk α β → Prop} (hG : Good s)
    (hm : (expected s).more = false) (hf : fits (expected s)) :
    ValidPlan fits s.podsLeft s.ctrsLeft [expected s] := by
  rw [expected_more_false hG hm] at hf ⊢
  exact .last _ _ hf

theorem validPlan_more {fits : Chunk α β → Prop} (hG : Good s)
    (hm : (expected s).more = true) (hf : fits (expected s)) {rest : List (Chunk α β)}
    (h : ValidPlan fits (advance s).podsLeft (advance s).ctrsLeft rest) :
    ValidPlan fits s.podsLeft s.ctrsLeft (expected s :: rest) := by
  have e : expected s = ⟨s.podsLeft.take s.podsPer, s.ctrsLeft.take s.ctrsPer, true⟩ :=
    congrArg (Chunk.mk _ _) hm
  rw [e] at hf ⊢
  exact .more _ _ _ _ _ hG.pods.le hG.ctrs.le (count_pos hG hm) hf h

theorem run_zero (E : Env α β υ ε σ) (w : σ) (s : SState α β) :
    run E 0 w s = ⟨[], .outOfFuel, w⟩ := rfl

theorem run_succ (E : Env α β υ ε σ) (n : Nat) (w : σ) (s : SState α β) :
    run E (n + 1) w s =
      match step E w s with
      | (w', evs, .stop o) => ⟨evs, o, w'⟩
      | (w', evs, .next s') => ⟨evs ++ (run E n w' s').evs, (run E n w' s').out, (run E n w' s').world⟩ := rfl

/-- The runs of the repaired loop from a state satisfying the invariant, cut off anywhere
    (`stall`): one rule for each way an iteration can go. The conditions on the reply are
    those of `step`, as it writes them. -/
inductive Runs (E : Env α β υ ε σ) : σ → SState α β → Run α β υ ε σ → Prop where
  | stall {w s} : Runs E w s ⟨[], .outOfFuel, w⟩
  | done {w s w'} (r : Reply υ) :
      Good s → (expected s).more = false → E.size (expected s) ≤ E.limit →
      E.peer w (expected s) = (w', .ok r) →
      Runs E w s ⟨[.sent (expected s) r], .done r.update, w'⟩
  | noSplit {w s w'} (r : Reply υ) :
      Good s → (expected s).more = true → E.size (expected s) ≤ E.limit →
      E.peer w (expected s) = (w', .ok r) → (!r.update.isEmpty || r.more != true) = true →
      Runs E w s ⟨[.sent (expected s) r], .failed .noSplit, w'⟩
  | peerErr {w s w'} (e : ε) :
      Good s → E.peer w (expected s) = (w', .error e) →
      Runs E w s ⟨[.errored (expected s)],
        .failed (if E.exhausted e then .tooLarge else .peer e), w'⟩
  | giveUp {w s} :
      Good s → E.limit < E.size (expected s) →
      E.policy s.podsPer s.ctrsPer E.limit (E.size (expected s)) = none →
      Runs E w s ⟨[.rejected (expected s) (E.size (expected s))], .failed .tooLarge, w⟩
  | advance {w s w'} (r : Reply υ) {rest : Run α β υ ε σ} :
      Good s → (expected s).more = true → E.size (expected s) ≤ E.limit →
      E.peer w (expected s) = (w', .ok r) → (!r.update.isEmpty || r.more != true) = false →
      Runs E w' (advance s) rest →
      Runs E w s ⟨.sent (expected s) r :: rest.evs, rest.out, rest.world⟩
  | shrink {w s} (p k : Nat) {rest : Run α β υ ε σ} :
      Good s → E.limit < E.size (expected s) → p + k < s.podsPer + s.ctrsPer →
      Good { s with podsPer := p, ctrsPer := k } →
      Runs E w { s with podsPer := p, ctrsPer := k } rest →
      Runs E w s ⟨.rejected (expected s) (E.size (expected s)) :: rest.evs, rest.out, rest.world⟩

def finished : Outcome υ ε → Prop
  | .done _ => True
  | .failed _ => True
  | _ => False

/-- Every run of the repaired loop is such a run, and `mu s + 1` iterations end it: each
    iteration gets at least one object through or strictly lowers the counts. -/
theorem run_main (E : Env α β υ ε σ) (m : Nat) (hc : E.clamp = true) (hπ : Shrinks m E.policy) :
    ∀ fuel w s, Good s →
      Runs E w s (run E fuel w s) ∧ (mu s < fuel → finished (run E fuel w s).out) := by
  intro fuel
  induction fuel with
  | zero => exact fun w s _ => ⟨.stall, fun h => absurd h (Nat.not_lt_zero _)⟩
  | succ n ih =>
    intro w s hG
    have hps : sliceTo s.podsLeft s.podsPer = some (s.podsLeft.take s.podsPer) := if_pos hG.pods.le
    have hcs : sliceTo s.ctrsLeft s.ctrsPer = some (s.ctrsLeft.take s.ctrsPer) := if_pos hG.ctrs.le
    rw [run_succ]
    /- The branches of `step`, in the order of its text (each hands over the two slices `ps`, `cs`
       with their `sliceTo` equations, which `hps`, `hcs` turn into the `take`s of `expected s`):
         case1  fits, answered, `more = false`                 rule `done`
         case2  fits, answered, `more`, reply refuses a split    rule `noSplit`
         case3  fits, answered, `more`, reply echoes             rule `advance`
         case4  fits, the call fails                             rule `peerErr`
         case5  too long, the policy gives up                    rule `giveUp`
         case6  too long, the policy proposes new counts         rule `shrink`
         case7  a slice out of range: impossible under `Good`  -/
    fun_cases step E w s
    case case1 ps cs hk hp _ _ hfit w' r hpeer hm =>
      cases hps.symm.trans hp
      cases hcs.symm.trans hk
      exact ⟨.done r hG hm hfit hpeer, fun _ => trivial⟩
    case case2 ps cs hk hp _ _ hfit w' r hpeer hm hr =>
      cases hps.symm.trans hp
      cases hcs.symm.trans hk
      have hm : (expected s).more = true := eq_true_of_ne_false hm
      exact ⟨.noSplit r hG hm hfit hpeer (hm ▸ hr), fun _ => trivial⟩
    case case3 ps cs hk hp _ _ hfit w' r hpeer hm hr _ _ =>
      cases hps.symm.trans hp
      cases hcs.symm.trans hk
      have hm : (expected s).more = true := eq_true_of_ne_false hm
      obtain ⟨ih1, ih2⟩ := ih w' (advance s) (good_advance hG)
      exact ⟨.advance r hG hm hfit hpeer (hm ▸ eq_false_of_ne_true hr) ih1,
        fun h => ih2 (Nat.lt_of_lt_of_le (mu_advance hG hm) (Nat.le_of_lt_succ h))⟩
    case case4 ps cs hk hp _ _ hfit w' e hpeer =>
      cases hps.symm.trans hp
      cases hcs.symm.trans hk
      exact ⟨.peerErr e hG hpeer, fun _ => trivial⟩
    case case5 ps cs hk hp _ _ hfit hpol =>
      cases hps.symm.trans hp
      cases hcs.symm.trans hk
      exact ⟨.giveUp hG (Nat.lt_of_not_le hfit) hpol, fun _ => trivial⟩
    case case6 ps cs hk hp _ _ hfit p k hpol p' k' =>
      cases hps.symm.trans hp
      cases hcs.symm.trans hk
      have hpos := hπ.positive _ _ _ _ _ _ hpol
      have hdec : min p s.podsLeft.length + min k s.ctrsLeft.length < s.podsPer + s.ctrsPer :=
        Nat.lt_of_le_of_lt (Nat.add_le_add (Nat.min_le_left _ _) (Nat.min_le_left _ _))
          (hπ.decreases _ _ _ _ _ _ hpol)
      have hG' : Good { s with podsPer := min p s.podsLeft.length,
                               ctrsPer := min k s.ctrsLeft.length } :=
        ⟨hG.pods.clamp hpos.1, hG.ctrs.clamp hpos.2⟩
      obtain ⟨ih1, ih2⟩ := ih w _ hG'
      rw [show p' = min p s.podsLeft.length from if_pos hc, show k' = min k s.ctrsLeft.length from if_pos hc]
      exact ⟨.shrink _ _ hG (Nat.lt_of_not_le hfit) hdec hG' ih1,
        fun h => ih2 (Nat.lt_of_lt_of_le (mu_shrink hdec) (Nat.le_of_lt_succ h))⟩
    case case7 h => exact (h _ _ hps hcs).elim

theorem synchronize_runs (E : Env α β υ ε σ) (m : Nat) (hc : E.clamp = true)
    (hπ : Shrinks m E.policy) (fuel : Nat) (w : σ) (pods : List α) (ctrs : List β) :
    Runs E w (SState.init pods ctrs) (synchronize E fuel w pods ctrs) :=
  (run_main E m hc hπ fuel w _ (good_init pods ctrs)).1

theorem synchronize_finished (E : Env α β υ ε σ) (m : Nat) (hc : E.clamp = true)
    (hπ : Shrinks m E.policy) (fuel : Nat) (w : σ) (pods : List α) (ctrs : List β)
    (hf : fuelBound pods ctrs ≤ fuel) : finished (synchronize E fuel w pods ctrs).out :=
  (run_main E m hc hπ fuel w _ (good_init pods ctrs)).2 (Nat.lt_of_lt_of_le (mu_init pods ctrs) hf)

variable {E : Env α β υ ε σ} {w : σ} {r : Run α β υ ε σ}

theorem runs_ne_fault (h : Runs E w s r) : r.out ≠ .fault := by
  induction h with
  | advance _ _ _ _ _ _ _ ih => exact ih
  | shrink _ _ _ _ _ _ _ ih => exact ih
  | _ => nofun

theorem runs_plan (h : Runs E w s r) :
    (∀ u, r.out = .done u →
      ValidPlan (fun c => E.size c ≤ E.limit) s.podsLeft s.ctrsLeft (plan r.evs)) ∧
    (∀ c ∈ plan r.evs, c.more = true → 0 < c.count) := by
  induction h with
  | stall | peerErr | giveUp => exact ⟨nofun, nofun⟩
  | done r hG hm hfit =>
    exact ⟨fun _ _ => validPlan_last hG hm hfit,
      List.forall_mem_singleton.mpr fun h => nomatch hm.symm.trans h⟩
  | noSplit r hG hm =>
    exact ⟨nofun, List.forall_mem_singleton.mpr fun _ => expected_count hG ▸ count_pos hG hm⟩
  | advance r hG hm hfit _ _ _ ih =>
    exact ⟨fun u hu => validPlan_more hG hm hfit (ih.1 u hu),
      List.forall_mem_cons.mpr ⟨fun _ => expected_count hG ▸ count_pos hG hm, ih.2⟩⟩
  | shrink _ _ _ _ _ _ _ ih => exact ih

end Nri.SyncChunk
