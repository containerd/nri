/-
The trace acceptor `acceptsTrace` (what the driver runs on the attempts observed at the
runtime end) against the model: sound (an accepted successful trace carries a valid plan)
and complete (every finished run of the repaired loop is accepted).
-/
import NriModel.Lemmas.SyncChunkRun

namespace Nri.SyncChunk

variable {α β υ ε σ : Type}

theorem evChunk_sent (c : Chunk α β) (r : Reply υ) : evChunk (Ev.sent c r) = c := rfl
theorem evChunk_rejected (c : Chunk α β) (n : Nat) : evChunk (Ev.rejected (υ := υ) c n) = c := rfl
theorem evChunk_errored (c : Chunk α β) : evChunk (Ev.errored (υ := υ) c) = c := rfl

theorem acceptsTrace_sound [DecidableEq α] [DecidableEq β]
    (fitsOk : Chunk α β → Bool) (rejOk : Chunk α β → Nat → Bool) (m : Nat)
    (evs : List (Ev α β υ)) (s : SState α β) (hG : Good s)
    (h : acceptsTrace fitsOk rejOk m .done s evs = true) :
    ValidPlan (fun c => fitsOk c = true) s.podsLeft s.ctrsLeft (plan evs) := by
  fun_induction acceptsTrace fitsOk rejOk m .done s evs with
  | case1 => cases h
  | case2 s e rest ihSent ihRej =>
    simp only [Bool.and_eq_true, decide_eq_true_eq] at h
    obtain ⟨⟨_, hexp⟩, hcase⟩ := h
    cases e with
    | sent c r =>
      obtain rfl : c = expected s := hexp
      simp only [Bool.and_eq_true] at hcase
      obtain ⟨hfit, hcase⟩ := hcase
      cases hm : (expected s).more with
      | false =>
        rw [if_pos hm] at hcase
        simp only [Bool.and_eq_true, List.isEmpty_iff] at hcase
        rw [hcase.1]
        exact validPlan_last hG hm hfit
      | true =>
        rw [if_neg (by rw [hm]; nofun)] at hcase
        split at hcase
        · simp at hcase
        · exact validPlan_more hG hm hfit (ihSent (good_advance hG) hcase)
    | errored c => simp at hcase
    | rejected c len =>
      cases rest with
      | nil => simp at hcase
      | cons e' rest' =>
        simp only [Bool.and_eq_true, decide_eq_true_eq, Bool.or_eq_true, List.isEmpty_iff] at hcase
        obtain ⟨_, ⟨⟨⟨⟨_, hp⟩, hk⟩, hpp⟩, hkp⟩, hrec⟩ := hcase
        have pos : ∀ {γ : Type} {l : List γ} {n : Nat}, l = [] ∨ 0 < n → 0 < l.length → 0 < n :=
          fun h hl => h.resolve_left (List.ne_nil_of_length_pos hl)
        exact ihRej e' ⟨⟨hp, pos hpp⟩, ⟨hk, pos hkp⟩⟩ hrec

/-- how a finished run ends, for the acceptor -/
def endOf : Outcome υ ε → End
  | .done _ => .done
  | _ => .failed

variable {E : Env α β υ ε σ} {w : σ} {s : SState α β} {r : Run α β υ ε σ}

theorem runs_head (h : Runs E w s r) (hf : finished r.out) :
    ∃ e rest, r.evs = e :: rest ∧ evChunk e = expected s := by
  induction h with
  | stall => exact hf.elim
  | _ => exact ⟨_, _, rfl, rfl⟩

theorem run_accepted [DecidableEq α] [DecidableEq β] {m : Nat} (hπ : Shrinks m E.policy)
    (hlim : 0 < E.limit) (h : Runs E w s r) (hf : finished r.out) :
    acceptsTrace (fun c => decide (E.size c ≤ E.limit))
      (fun c len => decide (E.limit < len) && decide (len = E.size c)) m (endOf r.out) s r.evs = true := by
  -- In every case the acceptor is unfolded on the rule's event and each of its guards is
  -- rewritten to `true`: the range checks by `Good`, the chunk check by `evChunk`, the others by
  -- the premises of the rule; what is left, if anything, is the acceptor on the rest (`ih`).
  induction h with
  | stall => exact hf.elim
  | done r hG hm hfit =>
    simp only [acceptsTrace, hG.pods.le, hG.ctrs.le, decide_true, Bool.and_self, evChunk, hfit, hm,
      if_true, List.isEmpty_nil, endOf]
  | noSplit r hG hm hfit _ hr =>
    simp only [acceptsTrace, hG.pods.le, hG.ctrs.le, decide_true, Bool.and_self, evChunk, hfit, hm,
      Bool.true_eq_false, if_false, hr, if_true, List.isEmpty_nil, endOf]
  | peerErr e hG =>
    simp only [acceptsTrace, hG.pods.le, hG.ctrs.le, decide_true, Bool.and_self, evChunk,
      List.isEmpty_nil, endOf]
  | giveUp hG hlt hpol =>
    have hcnt := hπ.gives_up _ _ _ _ hlim hlt hpol
    rw [← expected_count hG] at hcnt
    simp only [acceptsTrace, hG.pods.le, hG.ctrs.le, decide_true, Bool.and_self, evChunk, hlt, endOf,
      hcnt]
  | advance r hG hm hfit _ hr _ ih =>
    unfold acceptsTrace
    simp only [hG.pods.le, hG.ctrs.le, evChunk_sent, decide_true, Bool.and_self, Bool.true_and,
      hfit, hm, Bool.true_eq_false, if_false, hr]
    exact ih hf
  | @shrink w s p k rest hG hlt hdec hG' hrest ih =>
    -- after a refusal the acceptor reads the new counts off the next attempt `e'`
    obtain ⟨e', rest', hevs, hchunk⟩ := runs_head hrest hf
    have ih := ih hf
    rw [hevs] at ih ⊢
    unfold acceptsTrace
    have g1 := hG'.pods
    have g2 := hG'.ctrs
    have hpl : (evChunk e').pods.length = p := hchunk ▸ expected_pods_length g1.le
    have hkl : (evChunk e').ctrs.length = k := hchunk ▸ expected_ctrs_length g2.le
    have pos : ∀ {γ : Type} {l : List γ} {n : Nat}, (0 < l.length → 0 < n) →
        (l.isEmpty || decide (0 < n)) = true := by
      intro γ l n h
      cases l with
      | nil => rfl
      | cons a l => simp [h]
    simp only [hG.pods.le, hG.ctrs.le, evChunk_rejected, decide_true, Bool.and_self, Bool.true_and,
      hlt, hpl, hkl, hdec, g1.le, g2.le, pos g1.pos, pos g2.pos]
    exact ih

end Nri.SyncChunk
