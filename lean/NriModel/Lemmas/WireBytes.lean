/-
Bytes in the wire model are natural numbers; this file shows the encoder only ever emits
numbers below 256 (C12), for well-typed values of a well-formed schema.
-/
import NriModel.Lemmas.WireProps

namespace Nri.Wire

def AllLt (bs : Bytes) : Prop := ∀ b ∈ bs, b < 256

theorem AllLt.append {a b : Bytes} (ha : AllLt a) (hb : AllLt b) : AllLt (a ++ b) := by
  intro x hx
  rcases List.mem_append.mp hx with h | h
  · exact ha x h
  · exact hb x h

theorem AllLt.take {bs : Bytes} (h : AllLt bs) (n : Nat) : AllLt (bs.take n) :=
  fun x hx => h x (List.mem_of_mem_take hx)

theorem AllLt.drop {bs : Bytes} (h : AllLt bs) (n : Nat) : AllLt (bs.drop n) :=
  fun x hx => h x (List.mem_of_mem_drop hx)

theorem decVarintAux_rest (f : Nat) (bs : Bytes) (v : Nat) (r : Bytes) (hb : AllLt bs)
    (h : decVarintAux f bs = some (v, r)) : AllLt r := by
  obtain ⟨pre, -, rfl⟩ := decVarintAux_suffix f bs v r h
  exact fun x hx => hb x (List.mem_append_right pre hx)

theorem allLt_nil : AllLt [] := by intro b hb; simp at hb

theorem okStr_allLt (bs : Bytes) (h : okStr bs = true) : AllLt bs := by
  simp only [okStr, Bool.and_eq_true, List.all_eq_true, decide_eq_true_eq] at h
  exact h.1

theorem lenDelim_allLt (num : Nat) (p : Bytes) (h2 : num < 536870912) (hp : AllLt p)
    (hl : p.length < 2 ^ 64) : AllLt (lenDelim num p) := by
  unfold lenDelim tag
  exact .append (encodeVarint_lt _ (by omega)) (.append (encodeVarint_lt _ hl) hp)

theorem encStrs_allLt (num : Nat) (h2 : num < 536870912) : ∀ (l : List Bytes),
    l.all okStr = true → (encStrs num l).length < 2 ^ 64 → AllLt (encStrs num l) := by
  intro l
  induction l with
  | nil => intro _ _; exact allLt_nil
  | cons s r ih =>
    intro hok hb
    simp only [List.all_cons, Bool.and_eq_true] at hok
    simp only [encStrs, List.length_append] at hb ⊢
    have := lenDelim_length_pos num s
    exact (lenDelim_allLt num s h2 (okStr_allLt s hok.1) (by omega)).append (ih hok.2 (by omega))

theorem encMap_allLt (num : Nat) (h2 : num < 536870912) : ∀ (l : List (Bytes × Bytes)),
    l.all okEntry = true → (encMap num l).length < 2 ^ 64 → AllLt (encMap num l) := by
  intro l
  induction l with
  | nil => intro _ _; exact allLt_nil
  | cons e r ih =>
    intro hok hb
    simp only [List.all_cons, Bool.and_eq_true, okEntry] at hok
    simp only [encMap, List.length_append] at hb ⊢
    have h0 := lenDelim_length_pos num (encEntry e.1 e.2)
    have hep := encEntry_length_pos e.1 e.2
    have h1 := lenDelim_length_pos 1 e.1
    have h2' := lenDelim_length_pos 2 e.2
    refine (lenDelim_allLt num _ h2 ?_ (by omega)).append (ih hok.2 (by omega))
    unfold encEntry
    exact (lenDelim_allLt 1 _ (by omega) (okStr_allLt _ hok.1.1) (by omega)).append
      (lenDelim_allLt 2 _ (by omega) (okStr_allLt _ hok.1.2) (by omega))

theorem encFields_allLt_of (S : Schema) : ∀ (fs : List Field) (vs : List Val),
    (∀ p ∈ fs.zip vs, (encField S p.1 p.2).length < 2 ^ 64 → AllLt (encField S p.1 p.2)) →
    (encFields S fs vs).length < 2 ^ 64 → AllLt (encFields S fs vs) := by
  intro fs
  induction fs with
  | nil => intro vs _ _; simp only [encFields]; exact allLt_nil
  | cons f fs ih =>
    intro vs h hb
    cases vs with
    | nil => simp only [encFields]; exact allLt_nil
    | cons v vs =>
      simp only [encFields, List.length_append] at hb ⊢
      exact (h (f, v) (by simp) (show (encField S f v).length < 2 ^ 64 by omega)).append
        (ih vs (fun p hp => h p (by simp [hp])) (by omega))

theorem encRep_allLt_of (S : Schema) (num m : Nat) (h2 : num < 536870912) : ∀ (l : List Val),
    (∀ fs, Val.msg fs ∈ l → (encFields S (S.fieldsOf m) fs).length < 2 ^ 64 →
      AllLt (encFields S (S.fieldsOf m) fs)) →
    wtList S m l = true → (encRep S num m l).length < 2 ^ 64 → AllLt (encRep S num m l) := by
  intro l
  induction l with
  | nil => intro _ _ _; simp only [encRep]; exact allLt_nil
  | cons v l ih =>
    intro h hwt hb
    cases v with
    | msg fs =>
      simp only [wtList, Bool.and_eq_true] at hwt
      simp only [encRep, List.length_append] at hb ⊢
      have := lenDelim_length_pos num (encFields S (S.fieldsOf m) fs)
      exact (lenDelim_allLt _ _ h2 (h fs (by simp) (by omega)) (by omega)).append
        (ih (fun fs' hm => h fs' (by simp [hm])) hwt.2 (by omega))
    | _ => simp [wtList] at hwt

theorem encField_allLt_aux (S : Schema) (hS : S.WF = true) : ∀ ty v, wtVal S ty v = true →
    ∀ f : Field, f.ty = ty → f.num < 536870912 → (encField S f v).length < 2 ^ 64 →
    AllLt (encField S f v) := by
  have hfields : ∀ m fs,
      (∀ p ∈ (S.fieldsOf m).zip fs, ∀ f : Field, f.ty = p.1.ty → f.num < 536870912 →
        (encField S f p.2).length < 2 ^ 64 → AllLt (encField S f p.2)) →
      (encFields S (S.fieldsOf m) fs).length < 2 ^ 64 → AllLt (encFields S (S.fieldsOf m) fs) :=
    fun m fs ih => encFields_allLt_of S _ fs fun p hp =>
      ih p hp p.1 rfl (Schema.WF.num hS (List.of_mem_zip hp).1).2
  refine wtVal_induction S ?_ ?_ ?_ ?_ ?_ ?_ ?_
  · intro k i hi f hty h2 hb
    simp only [encField, hty] at hb ⊢
    by_cases h0 : i = 0
    · rw [if_pos h0]; exact allLt_nil
    · rw [if_neg h0]
      exact .append (encodeVarint_lt _ (by omega)) (encodeVarint_lt _ (toU64_lt k i hi))
  · intro bs hbs f hty h2 hb
    simp only [encField, hty] at hb ⊢
    by_cases h0 : bs = []
    · rw [if_pos h0]; exact allLt_nil
    · rw [if_neg h0] at hb ⊢
      have := lenDelim_length_pos f.num bs
      exact lenDelim_allLt _ _ h2 (okStr_allLt _ hbs) (by omega)
  · intro m f _ _ _
    simp only [encField]
    exact allLt_nil
  · intro m fs _ ih f hty h2 hb
    simp only [encField, hty] at hb ⊢
    have := lenDelim_length_pos f.num (encFields S (S.fieldsOf m) fs)
    exact lenDelim_allLt _ _ h2 (hfields m fs ih (by omega)) (by omega)
  · intro l hl f hty h2 hb
    simp only [encField, hty] at hb ⊢
    exact encStrs_allLt _ h2 l hl hb
  · intro m l hl ih f hty h2 hb
    simp only [encField, hty] at hb ⊢
    exact encRep_allLt_of S f.num m h2 l (fun fs hfs => hfields m fs (ih fs hfs)) hl hb
  · intro l hl _ f hty h2 hb
    simp only [encField, hty] at hb ⊢
    exact encMap_allLt _ h2 l hl hb

theorem encField_allLt (S : Schema) (hS : S.WF = true) (f : Field) (h2 : f.num < 536870912) :
    ∀ v, wtVal S f.ty v = true → (encField S f v).length < 2 ^ 64 → AllLt (encField S f v) :=
  fun v hwt hb => encField_allLt_aux S hS _ v hwt f rfl h2 hb

theorem encFields_allLt (S : Schema) (hS : S.WF = true) (n : Nat) : ∀ (fs : List Field),
    fs.all (Field.ok n) = true → ∀ (vs : List Val), wtFields S fs vs = true →
    (encFields S fs vs).length < 2 ^ 64 → AllLt (encFields S fs vs) :=
  fun fs hok vs hwt => encFields_allLt_of S fs vs fun p hp =>
    encField_allLt S hS p.1 (Field.ok.num (List.all_eq_true.mp hok _ (List.of_mem_zip hp).1)).2 p.2
      (wtFields_zip S fs vs hwt p hp)

theorem encRep_allLt (S : Schema) (hS : S.WF = true) (num m : Nat) (h2 : num < 536870912) :
    ∀ (l : List Val), wtList S m l = true → (encRep S num m l).length < 2 ^ 64 →
    AllLt (encRep S num m l) :=
  fun l hwt => encRep_allLt_of S num m h2 l (fun fs hfs =>
    encFields_allLt S hS S.length _ (Schema.WF.all_ok hS m) fs (wtList_mem S m l fs hwt hfs)) hwt

end Nri.Wire
