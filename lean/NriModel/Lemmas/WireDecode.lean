/-
Record-level lemmas for the wire model (C12): what the decoder does with one record the
encoder wrote; decoding with enough fuel.
-/
import NriModel.Lemmas.WireVarint

namespace Nri.Wire

theorem parseField_varint (num x : Nat) (rest : Bytes) (h1 : 1 ≤ num) (h2 : num < 536870912)
    (hx : x < 2 ^ 64) :
    parseField (tag num 0 ++ (encodeVarint x ++ rest)) = some (num, .varint x, rest) := by
  unfold parseField tag
  rw [decodeVarint_encodeVarint _ _ (by omega)]
  have e1 : (num * 8 + 0) / 8 = num := by omega
  have e2 : (num * 8 + 0) % 8 = 0 := by omega
  have e3 : ¬ (num = 0 ∨ 536870912 ≤ num) := by omega
  simp only [e1, e2, e3, if_false, if_true]
  rw [decodeVarint_encodeVarint _ _ hx]

theorem parseField_lenDelim (num : Nat) (p rest : Bytes) (h1 : 1 ≤ num) (h2 : num < 536870912)
    (hp : p.length < 2 ^ 64) :
    parseField (lenDelim num p ++ rest) = some (num, .len p, rest) := by
  unfold parseField lenDelim tag
  simp only [List.append_assoc]
  rw [decodeVarint_encodeVarint _ _ (by omega)]
  have e1 : (num * 8 + 2) / 8 = num := by omega
  have e2 : (num * 8 + 2) % 8 = 2 := by omega
  have e3 : ¬ (num = 0 ∨ 536870912 ≤ num) := by omega
  simp only [e1, e2, e3, if_false]
  rw [decodeVarint_encodeVarint _ _ hp]
  simp

theorem parseField_some {bs : Bytes} {num : Nat} {it : Item} {rest : Bytes}
    (h : parseField bs = some (num, it, rest)) :
    ∃ t r, decodeVarint bs = some (t, r) ∧ num = t / 8 ∧ 1 ≤ num ∧ num < 536870912 ∧
      match it with
      | .varint x => decodeVarint r = some (x, rest)
      | .len p => ∃ n r', decodeVarint r = some (n, r') ∧ p = r'.take n ∧ rest = r'.drop n
      | .fixed k => rest = r.drop k := by
  unfold parseField at h
  cases hd : decodeVarint bs with
  | none => simp [hd] at h
  | some tr =>
    obtain ⟨t, r⟩ := tr
    refine ⟨t, r, rfl, ?_⟩
    simp only [hd] at h
    by_cases hc : t / 8 = 0 ∨ 536870912 ≤ t / 8
    · rw [if_pos hc] at h
      cases h
    · rw [if_neg hc] at h
      have hr : 1 ≤ t / 8 ∧ t / 8 < 536870912 := by omega
      by_cases h0 : t % 8 = 0
      · rw [if_pos h0] at h
        cases hd2 : decodeVarint r with
        | none => simp [hd2] at h
        | some xr =>
          simp only [hd2, Option.some.injEq, Prod.mk.injEq] at h
          obtain ⟨rfl, rfl, rfl⟩ := h
          exact ⟨rfl, hr.1, hr.2, rfl⟩
      · rw [if_neg h0] at h
        by_cases h2 : t % 8 = 2
        · rw [if_pos h2] at h
          cases hd2 : decodeVarint r with
          | none => simp [hd2] at h
          | some xr =>
            simp only [hd2, Option.ite_none_right_eq_some, Option.some.injEq, Prod.mk.injEq] at h
            obtain ⟨-, rfl, rfl, rfl⟩ := h
            exact ⟨rfl, hr.1, hr.2, _, _, rfl, rfl, rfl⟩
        · rw [if_neg h2] at h
          by_cases h1 : t % 8 = 1
          · simp only [if_pos h1, Option.ite_none_right_eq_some, Option.some.injEq,
              Prod.mk.injEq] at h
            obtain ⟨-, rfl, rfl, rfl⟩ := h
            exact ⟨rfl, hr.1, hr.2, rfl⟩
          · simp only [if_neg h1, Option.ite_none_right_eq_some, Option.some.injEq,
              Prod.mk.injEq] at h
            obtain ⟨-, -, rfl, rfl, rfl⟩ := h
            exact ⟨rfl, hr.1, hr.2, rfl⟩
theorem parseField_nil : parseField [] = none := by
  simp [parseField, decodeVarint, decVarintAux]

theorem lenDelim_length (num : Nat) (p : Bytes) :
    (lenDelim num p).length = sizeLenDelim num p.length := by
  simp [lenDelim, tag, sizeLenDelim, encodeVarint_length]

theorem lenDelim_length_pos (num : Nat) (p : Bytes) : p.length + 2 ≤ (lenDelim num p).length := by
  rw [lenDelim_length]
  have := sizeVarint_pos (num * 8 + 2)
  have := sizeVarint_pos p.length
  unfold sizeLenDelim
  omega

theorem parseField_length {bs : Bytes} {num : Nat} {it : Item} {rest : Bytes}
    (h : parseField bs = some (num, it, rest)) : rest.length < bs.length := by
  obtain ⟨t, r, hd, -, -, -, hit⟩ := parseField_some h
  have hr := decVarintAux_length 9 bs t r hd
  cases it with
  | varint x =>
    have := decVarintAux_length 9 r x rest hit
    omega
  | len p =>
    obtain ⟨n, r', hd2, -, rfl⟩ := hit
    have := decVarintAux_length 9 r n r' hd2
    simp only [List.length_drop]
    omega
  | fixed k =>
    have hit : rest = r.drop k := hit
    rw [hit, List.length_drop]
    omega

theorem findField_not_mem (fs : List Field) (num : Nat) (h : num ∉ fs.map (·.num)) :
    findField fs num = none := by
  induction fs with
  | nil => rfl
  | cons f r ih =>
    simp only [List.map_cons, List.mem_cons, not_or] at h
    have : ¬ f.num = num := fun e => h.1 e.symm
    simp [findField, this, ih h.2]

theorem findField_append (pre : List Field) (f : Field) (post : List Field)
    (hnd : ((pre ++ f :: post).map (·.num)).Nodup) :
    findField (pre ++ f :: post) f.num = some (pre.length, f) := by
  induction pre with
  | nil => simp [findField]
  | cons g pre ih =>
    simp only [List.cons_append, List.map_cons, List.nodup_cons] at hnd
    have hne : ¬ g.num = f.num := by
      intro e
      apply hnd.1
      rw [e]
      simp
    simp [findField, hne, ih hnd.2]

theorem findField_spec (fs : List Field) (n i : Nat) (f : Field)
    (h : findField fs n = some (i, f)) : fs[i]? = some f ∧ f.num = n := by
  fun_induction findField fs n generalizing i <;> cases h
  · simp
  · rename_i ih hrec
    simpa using ih _ hrec

theorem findField_of_getElem (fs : List Field) (hnd : (fs.map (·.num)).Nodup) (i : Nat) (f : Field)
    (h : fs[i]? = some f) : findField fs f.num = some (i, f) := by
  obtain ⟨hi, rfl⟩ := List.getElem?_eq_some_iff.mp h
  have hsplit : fs = fs.take i ++ fs[i] :: fs.drop (i + 1) := by
    simp
  have := findField_append (fs.take i) fs[i] (fs.drop (i + 1)) (by rw [← hsplit]; exact hnd)
  rw [← hsplit] at this
  simpa [Nat.min_eq_left (Nat.le_of_lt hi)] using this

theorem decMsg_step (S : Schema) (fuel m : Nat) (acc : List Val) (bs rest : Bytes) (num : Nat)
    (it : Item) (h : parseField bs = some (num, it, rest)) :
    decMsg S (fuel + 1) m acc bs =
      match applyItem S (decMsg S fuel) (S.fieldsOf m) acc num it with
      | none => none
      | some acc' => decMsg S fuel m acc' rest := by
  cases bs with
  | nil => simp [parseField_nil] at h
  | cons b t =>
    simp only [decMsg, h]
    cases applyItem S (decMsg S fuel) (S.fieldsOf m) acc num it <;> rfl

theorem decMsg_nil (S : Schema) (fuel m : Nat) (acc : List Val) :
    decMsg S fuel m acc [] = some acc := by
  cases fuel <;> simp [decMsg]

theorem applyItem_mono (S : Schema) (r1 r2 : Nat → List Val → Bytes → Option (List Val))
    (hr : ∀ m acc bs out, r1 m acc bs = some out → r2 m acc bs = some out)
    (fields : List Field) (acc : List Val) (num : Nat) (it : Item) (out : List Val)
    (h : applyItem S r1 fields acc num it = some out) :
    applyItem S r2 fields acc num it = some out := by
  unfold applyItem at h ⊢
  cases hf : findField fields num with
  | none => simpa [hf] using h
  | some x =>
    obtain ⟨i, f⟩ := x
    simp only [hf] at h ⊢
    -- only the two message kinds consult the nested decoder
    cases hty : f.ty <;> cases it <;> simp only [hty] at h ⊢ <;> try (first | exact h | simp at h)
    · -- singular message field, length-delimited record
      rename_i m p
      cases hrec : r1 m (curMsg S m acc[i]?) p with
      | none => rw [hrec] at h; simp at h
      | some fs => rw [hr _ _ _ _ hrec]; rw [hrec] at h; exact h
    · -- repeated message field, length-delimited record
      rename_i m p
      cases hrec : r1 m (emptyMsg S m) p with
      | none => rw [hrec] at h; simp at h
      | some fs => rw [hr _ _ _ _ hrec]; rw [hrec] at h; exact h

theorem decMsg_mono (S : Schema) (fuel fuel' m : Nat) (acc : List Val) (bs : Bytes)
    (out : List Val) (hle : fuel ≤ fuel') (h : decMsg S fuel m acc bs = some out) :
    decMsg S fuel' m acc bs = some out := by
  induction fuel generalizing fuel' m acc bs out with
  | zero =>
    cases bs with
    | nil => rwa [decMsg_nil] at h ⊢
    | cons b t => simp [decMsg] at h
  | succ fuel ih =>
    obtain ⟨fuel', rfl⟩ : ∃ k, fuel' = k + 1 := ⟨fuel' - 1, by omega⟩
    cases bs with
    | nil => rwa [decMsg_nil] at h ⊢
    | cons b t =>
      cases hp : parseField (b :: t) with
      | none => simp [decMsg, hp] at h
      | some x =>
        obtain ⟨num, it, rest⟩ := x
        rw [decMsg_step S _ m acc _ rest num it hp] at h ⊢
        cases ha : applyItem S (decMsg S fuel) (S.fieldsOf m) acc num it with
        | none => simp [ha] at h
        | some acc' =>
          rw [applyItem_mono S _ _ (fun m acc bs out => ih fuel' m acc bs out (by omega)) _ _ _ _ _ ha]
          rw [ha] at h
          exact ih fuel' m acc' rest out (by omega) h

def Dec (S : Schema) (m : Nat) (acc : List Val) (bs : Bytes) (out : List Val) : Prop :=
  ∀ fuel, bs.length ≤ fuel → decMsg S fuel m acc bs = some out

section
variable {S : Schema} {m : Nat} {acc acc' out : List Val} {rest : Bytes} {num : Nat}

theorem Dec.nil : Dec S m acc [] acc :=
  fun fuel _ => decMsg_nil S fuel m acc

/-- the nested decoder gets the fuel left after this record's first byte -/
theorem Dec.record {bs : Bytes} {it : Item} (hp : parseField bs = some (num, it, rest))
    (ha : ∀ fuel, bs.length ≤ fuel + 1 →
      applyItem S (decMsg S fuel) (S.fieldsOf m) acc num it = some acc')
    (h : Dec S m acc' rest out) : Dec S m acc bs out := by
  intro fuel hf
  have hl := parseField_length hp
  cases fuel with
  | zero => omega
  | succ fuel =>
    rw [decMsg_step S fuel m acc bs rest num it hp, ha fuel hf]
    exact h fuel (by omega)

theorem Dec.lenDelim {p : Bytes} (h1 : 1 ≤ num) (h2 : num < 536870912)
    (hp : (lenDelim num p).length < 2 ^ 64)
    (ha : ∀ fuel, p.length ≤ fuel →
      applyItem S (decMsg S fuel) (S.fieldsOf m) acc num (.len p) = some acc')
    (h : Dec S m acc' rest out) : Dec S m acc (lenDelim num p ++ rest) out := by
  have hpos := lenDelim_length_pos num p
  refine Dec.record (parseField_lenDelim num p rest h1 h2 (by omega)) (fun fuel hf => ha fuel ?_) h
  simp only [List.length_append] at hf
  omega

end

theorem encEntry_length (k v : Bytes) : (encEntry k v).length = sizeEntry k v := by
  simp [encEntry, sizeEntry, lenDelim_length]

theorem encEntry_length_pos (k v : Bytes) : k.length + v.length + 4 ≤ (encEntry k v).length := by
  have := lenDelim_length_pos 1 k
  have := lenDelim_length_pos 2 v
  simp only [encEntry, List.length_append]
  omega

theorem decEntry_nil (fuel : Nat) (k v : Bytes) : decEntry fuel k v [] = some (k, v) := by
  cases fuel <;> rfl

theorem decEntry_encEntry (fuel : Nat) (hf : 2 ≤ fuel) (k v : Bytes) (hk : okStr k = true)
    (hv : okStr v = true) (hkl : k.length < 2 ^ 64) (hvl : v.length < 2 ^ 64) (k0 v0 : Bytes) :
    decEntry fuel k0 v0 (encEntry k v) = some (k, v) := by
  -- the entry holds two records, and `decEntry` spends one unit of fuel on each
  obtain ⟨n, rfl⟩ : ∃ n, fuel = n + 2 := ⟨fuel - 2, by omega⟩
  have p1 : parseField (encEntry k v) = some (1, .len k, lenDelim 2 v) := by
    have := parseField_lenDelim 1 k (lenDelim 2 v) (by omega) (by omega) hkl
    simpa [encEntry] using this
  have p2 : parseField (lenDelim 2 v) = some (2, .len v, []) := by
    have := parseField_lenDelim 2 v [] (by omega) (by omega) hvl
    simpa using this
  cases he : encEntry k v with
  | nil => rw [he] at p1; simp [parseField_nil] at p1
  | cons b t =>
    rw [he] at p1
    simp only [decEntry, p1, hk, if_true]
    cases hl : lenDelim 2 v with
    | nil => rw [hl] at p2; simp [parseField_nil] at p2
    | cons b' t' =>
      rw [hl] at p2
      simp [p2, hv, decEntry_nil]

theorem set_same {α : Type} {l : List α} {i : Nat} {a : α} (h : l[i]? = some a) : l.set i a = l := by
  obtain ⟨hi, rfl⟩ := List.getElem?_eq_some_iff.mp h
  exact List.set_getElem_self hi

end Nri.Wire
