/-
The decoder of the wire model only ever returns well-typed values (C12), whatever bytes
(numbers below 256) it is given: each record keeps the message under construction well-typed.
-/
import NriModel.Lemmas.WireBytes
import NriModel.Lemmas.AList

namespace Nri.Wire

def Item.ok : Item → Prop
  | .varint x => x < 2 ^ 64
  | .len p => AllLt p
  | .fixed _ => True

theorem parseField_ok (bs : Bytes) (hb : AllLt bs) (num : Nat) (it : Item) (rest : Bytes)
    (h : parseField bs = some (num, it, rest)) : it.ok ∧ AllLt rest := by
  obtain ⟨t, r, hd, -, -, -, hit⟩ := parseField_some h
  have hr := decVarintAux_rest 9 bs t r hb hd
  cases it with
  | varint x => exact ⟨decodeVarint_lt r x rest hr hit, decVarintAux_rest 9 r x rest hr hit⟩
  | len p =>
    obtain ⟨n, r', hd2, rfl, rfl⟩ := hit
    have hr' := decVarintAux_rest 9 r n r' hr hd2
    exact ⟨hr'.take n, hr'.drop n⟩
  | fixed k => exact ⟨trivial, hit ▸ hr.drop k⟩

theorem okStr_nil : okStr [] = true := rfl

theorem decEntry_ok (fuel : Nat) (k0 v0 bs k v : Bytes) (hk : okStr k0 = true) (hv : okStr v0 = true)
    (h : decEntry fuel k0 v0 bs = some (k, v)) : okStr k = true ∧ okStr v = true := by
  fun_induction decEntry fuel k0 v0 bs
  -- input exhausted (with or without fuel left): the entry is what has been read so far
  case case1 | case3 => cases h; exact ⟨hk, hv⟩
  -- field 1, a valid string: it becomes the key
  case case4 => rename_i ih; exact ih ‹_› hv h
  -- field 2, a valid string: it becomes the value
  case case6 => rename_i ih; exact ih hk ‹_› h
  -- any other field number, length-delimited or not: skipped
  case case8 | case10 => rename_i ih; exact ih hk hv h
  -- the remaining branches fail: no fuel, invalid UTF-8, wrong wire type for field 1 or 2, bad record
  all_goals cases h

theorem insert_wt (l : List (Bytes × Bytes)) (k v : Bytes) (hk : okStr k = true) (hv : okStr v = true)
    (hall : l.all okEntry = true) (hnd : (l.map (·.1)).Nodup) :
    (AList.insert l k v).all okEntry = true ∧ ((AList.insert l k v).map (·.1)).Nodup := by
  refine ⟨List.all_eq_true.mpr fun x hx => ?_, AList.keys_insert_nodup k v hnd⟩
  rcases AList.mem_insert hx with rfl | hx
  · simp [okEntry, hk, hv]
  · exact List.all_eq_true.mp hall x hx

theorem applyItem_wt (S : Schema) (hS : S.WF = true)
    (rec : Nat → List Val → Bytes → Option (List Val))
    (hrec : ∀ m acc p out, AllLt p → wtFields S (S.fieldsOf m) acc = true →
      rec m acc p = some out → wtFields S (S.fieldsOf m) out = true)
    (m : Nat) (acc : List Val) (hacc : wtFields S (S.fieldsOf m) acc = true)
    (num : Nat) (it : Item) (hit : it.ok) (acc' : List Val)
    (h : applyItem S rec (S.fieldsOf m) acc num it = some acc') :
    wtFields S (S.fieldsOf m) acc' = true := by
  unfold applyItem at h
  cases hf : findField (S.fieldsOf m) num with
  | none => simp only [hf] at h; simp at h; rw [← h]; exact hacc
  | some x =>
    obtain ⟨i, f⟩ := x
    have hfi := (findField_spec _ _ _ _ hf).1
    -- every kind of record stores one well-typed value in the slot of its field
    suffices ∃ x, acc' = acc.set i x ∧ wtVal S f.ty x = true by
      obtain ⟨x, rfl, hx⟩ := this
      exact wtFields_set S _ acc i f x hacc hfi hx
    have hslot : ∀ a, acc[i]? = some a → wtVal S f.ty a = true :=
      fun a ha => wtFields_get S _ acc i f a hacc hfi ha
    simp only [hf] at h
    cases hty : f.ty <;> cases it <;> simp only [hty] at h hslot ⊢ <;> try (simp at h)
    · -- scalar field, varint record
      rename_i k x
      exact ⟨_, h.symm, ofU64_inRange k x hit⟩
    · -- string field
      exact ⟨_, h.2.symm, h.1⟩
    · -- singular message field: the payload is decoded into what the slot holds
      rename_i m' p
      split at h
      · rename_i fs hr
        simp at h
        exact ⟨_, h.symm, hrec m' _ p fs hit (wtFields_curMsg hS hslot) hr⟩
      · simp at h
    · -- repeated string field: one more element
      obtain ⟨hp, h⟩ := h
      split at h
      · rename_i l hv0
        simp at h
        have := hslot _ hv0
        simp only [wtVal] at this
        exact ⟨_, h.symm, by simp [wtVal, this, hp]⟩
      · simp at h
    · -- repeated message field: the payload is decoded on its own and appended
      rename_i m' p
      split at h
      · rename_i fs hr
        split at h
        · rename_i l hv0
          simp at h
          exact ⟨_, h.symm, wtList_append S m' l fs (hslot _ hv0)
            (hrec m' _ p fs hit (wellTyped_emptyMsg S hS m') hr)⟩
        · simp at h
      · simp at h
    · -- map field: one Go map assignment
      rename_i p
      split at h
      · rename_i k v he
        split at h
        · rename_i l hv0
          simp at h
          have := hslot _ hv0
          simp only [wtVal, Bool.and_eq_true, decide_eq_true_eq] at this
          have hkv := decEntry_ok _ [] [] p k v okStr_nil okStr_nil he
          exact ⟨_, h.symm, by simpa [wtVal] using insert_wt l k v hkv.1 hkv.2 this.1 this.2⟩
        · simp at h
      · simp at h

theorem decMsg_wt (S : Schema) (hS : S.WF = true) : ∀ (fuel m : Nat) (acc : List Val) (bs : Bytes)
    (out : List Val), AllLt bs → wtFields S (S.fieldsOf m) acc = true →
    decMsg S fuel m acc bs = some out → wtFields S (S.fieldsOf m) out = true := by
  intro fuel
  induction fuel with
  | zero =>
    intro m acc bs out _ hacc h
    cases bs with
    | nil => rw [decMsg_nil] at h; cases h; exact hacc
    | cons b t => simp [decMsg] at h
  | succ fuel ih =>
    intro m acc bs out hb hacc h
    cases bs with
    | nil => rw [decMsg_nil] at h; cases h; exact hacc
    | cons b t =>
      cases hp : parseField (b :: t) with
      | none => simp [decMsg, hp] at h
      | some x =>
        obtain ⟨num, it, rest⟩ := x
        rw [decMsg_step S fuel m acc _ rest num it hp] at h
        have hok := parseField_ok _ hb num it rest hp
        cases ha : applyItem S (decMsg S fuel) (S.fieldsOf m) acc num it with
        | none => simp [ha] at h
        | some acc' =>
          simp only [ha] at h
          exact ih m acc' rest out hok.2
            (applyItem_wt S hS (decMsg S fuel) (fun m acc p out => ih m acc p out) m acc hacc num it
              hok.1 acc' ha) h

end Nri.Wire
