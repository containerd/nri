/-
Field-order freedom of the wire model (C12): the records of a message's fields, written
in any order of the fields, decode to the same value.
-/
import NriModel.Lemmas.WireRoundtrip

namespace Nri.Wire

/-- The records of some of the fields of `v`, in any order, decoded into a message that agrees
    with `v` except at those fields, where it still holds the defaults, give `v`. -/
theorem decMsg_pairs (S : Schema) (hS : S.WF = true) (m : Nat) (v : List Val)
    (hv : WellTyped S m v = true) : ∀ (π : List (Field × Val)) (acc : List Val),
      (π.map (·.1.num)).Nodup →
      (∀ p ∈ π, ∃ i : Nat, (S.fieldsOf m)[i]? = some p.1 ∧ acc[i]? = some p.1.ty.default ∧
          v[i]? = some p.2) →
      (∀ j : Nat, acc[j]? = v[j]? ∨ ∃ p ∈ π, (S.fieldsOf m)[j]? = some p.1) →
      (π.flatMap fun p => encField S p.1 p.2).length < 2 ^ 64 →
      Dec S m acc (π.flatMap fun p => encField S p.1 p.2) v := by
  intro π
  induction π with
  | nil =>
    intro acc _ _ hrest _
    rw [List.ext_getElem? fun j => (hrest j).resolve_right (by simp)]
    exact Dec.nil
  | cons p π ih =>
    intro acc hnd hall hrest hb
    obtain ⟨f, x⟩ := p
    obtain ⟨i, hfi, hacc, hvi⟩ := hall (f, x) (by simp)
    have hwt := wtFields_get S _ v i f x hv hfi hvi
    have hfind := findField_of_getElem _ (Schema.WF.nodup hS m) i f hfi
    have hmem := List.mem_of_getElem? hfi
    have hnum := Schema.WF.num hS hmem
    have hi : i < acc.length := (List.getElem?_eq_some_iff.mp hacc).1
    simp only [List.map_cons, List.nodup_cons] at hnd
    simp only [List.flatMap_cons, List.length_append] at hb ⊢
    refine decMsg_field hS _ _ hwt f m i acc _ _ v rfl hfind hnum.1 hnum.2 hacc
      (wtVal_default S _ f (List.all_eq_true.mp (Schema.WF.all_ok hS m) f hmem))
      (show (encField S f x).length < 2 ^ 64 by omega) ?_
    rw [mergeVal_default S _ _ hwt]
    -- a field of the schema sits at one position only
    have hpos : ∀ j, (S.fieldsOf m)[j]? = some f → j = i := fun j hj =>
      (Prod.mk.inj (Option.some.inj
        ((findField_of_getElem _ (Schema.WF.nodup hS m) j f hj).symm.trans hfind))).1
    refine ih (acc.set i x) hnd.2 ?_ ?_ (by omega)
    · intro q hq
      obtain ⟨j, hfj, haj, hvj⟩ := hall q (by simp [hq])
      have hne : i ≠ j := by
        rintro rfl
        have : q.1 = f := (Option.some.inj (hfj.symm.trans hfi))
        exact hnd.1 (List.mem_map.mpr ⟨q, hq, by rw [this]⟩)
      exact ⟨j, hfj, by simp [hne, haj], hvj⟩
    · intro j
      by_cases e : i = j
      · subst e
        exact .inl (by simp [hi, hvi])
      · rcases hrest j with h | ⟨q, hq, hfj⟩
        · exact .inl (by simp [e, h])
        · rcases List.mem_cons.mp hq with rfl | hq
          · exact absurd (hpos j hfj).symm e
          · exact .inr ⟨q, hq, hfj⟩

end Nri.Wire
