/-
Well-formed schemas and well-typed values of the wire model (C12): what well-formedness gives
for each field, the empty message and single-field updates are well-typed, and the induction
principle over well-typed values that the codec theorems go by.
-/
import NriModel.Lemmas.WireDecode

namespace Nri.Wire

theorem Schema.WF.fields (S : Schema) (h : S.WF = true) (m : Nat) :
    fieldsWF S.length (S.fieldsOf m) = true := by
  unfold Schema.fieldsOf
  cases hm : S[m]? with
  | none => simp [fieldsWF]
  | some d =>
    simp only [Schema.WF, List.all_eq_true] at h
    exact h d (List.mem_of_getElem? hm)

theorem Schema.WF.all_ok {S : Schema} (h : S.WF = true) (m : Nat) :
    (S.fieldsOf m).all (Field.ok S.length) = true := by
  have := Schema.WF.fields S h m
  simp only [fieldsWF, Bool.and_eq_true] at this
  exact this.1

theorem Schema.WF.nodup {S : Schema} (h : S.WF = true) (m : Nat) :
    ((S.fieldsOf m).map (·.num)).Nodup := by
  have := Schema.WF.fields S h m
  simp only [fieldsWF, Bool.and_eq_true, decide_eq_true_eq] at this
  exact this.2

theorem Field.ok.num {n : Nat} {f : Field} (h : Field.ok n f = true) :
    1 ≤ f.num ∧ f.num < 536870912 := by
  simp only [Field.ok, Bool.and_eq_true, decide_eq_true_eq] at h
  exact h.1

theorem Schema.WF.num {S : Schema} (h : S.WF = true) {m : Nat} {f : Field}
    (hf : f ∈ S.fieldsOf m) : 1 ≤ f.num ∧ f.num < 536870912 :=
  Field.ok.num (List.all_eq_true.mp (Schema.WF.all_ok h m) f hf)

theorem wtVal_default (S : Schema) (n : Nat) (f : Field) (h : Field.ok n f = true) :
    wtVal S f.ty f.ty.default = true := by
  cases hty : f.ty with
  | scalar k => cases k <;> rfl
  | unsupported => simp [Field.ok, hty, FType.ok] at h
  | _ => rfl

theorem wtFields_defaults (S : Schema) (n : Nat) : ∀ (fs : List Field),
    fs.all (Field.ok n) = true → wtFields S fs (fs.map (·.ty.default)) = true := by
  intro fs
  induction fs with
  | nil => intro _; simp [wtFields]
  | cons f fs ih =>
    intro h
    simp only [List.all_cons, Bool.and_eq_true] at h
    simp [wtFields, wtVal_default S n f h.1, ih h.2]

theorem wellTyped_emptyMsg (S : Schema) (hS : S.WF = true) (m : Nat) :
    WellTyped S m (emptyMsg S m) = true :=
  wtFields_defaults S S.length _ (Schema.WF.all_ok hS m)

theorem wtFields_length (S : Schema) : ∀ (fs : List Field) (vs : List Val),
    wtFields S fs vs = true → vs.length = fs.length := by
  intro fs
  induction fs with
  | nil => intro vs h; cases vs <;> simp_all [wtFields]
  | cons f fs ih =>
    intro vs h
    cases vs with
    | nil => simp [wtFields] at h
    | cons v vs =>
      simp only [wtFields, Bool.and_eq_true] at h
      simp [ih vs h.2]

theorem wtFields_zip (S : Schema) : ∀ (fs : List Field) (vs : List Val), wtFields S fs vs = true →
    ∀ p ∈ fs.zip vs, wtVal S p.1.ty p.2 = true := by
  intro fs
  induction fs with
  | nil => intro vs _ p hp; simp at hp
  | cons f fs ih =>
    intro vs h p hp
    cases vs with
    | nil => simp at hp
    | cons v vs =>
      simp only [wtFields, Bool.and_eq_true] at h
      simp only [List.zip_cons_cons, List.mem_cons] at hp
      rcases hp with rfl | hp
      · exact h.1
      · exact ih vs h.2 p hp

theorem wtFields_get (S : Schema) (fs : List Field) (vs : List Val) (i : Nat) (f : Field) (x : Val)
    (hwt : wtFields S fs vs = true) (hf : fs[i]? = some f) (hx : vs[i]? = some x) :
    wtVal S f.ty x = true :=
  wtFields_zip S fs vs hwt (f, x)
    (List.mem_iff_getElem?.mpr ⟨i, List.getElem?_zip_eq_some.mpr ⟨hf, hx⟩⟩)

theorem wtFields_set (S : Schema) : ∀ (fs : List Field) (vs : List Val) (i : Nat) (f : Field) (x : Val),
    wtFields S fs vs = true → fs[i]? = some f → wtVal S f.ty x = true →
    wtFields S fs (vs.set i x) = true := by
  intro fs
  induction fs with
  | nil => intro vs i f x _ hf; simp at hf
  | cons g fs ih =>
    intro vs i f x hwt hf hx
    cases vs with
    | nil => simp [wtFields] at hwt
    | cons v vs =>
      simp only [wtFields, Bool.and_eq_true] at hwt
      cases i with
      | zero =>
        simp at hf
        subst hf
        simp [wtFields, hx, hwt.2]
      | succ i =>
        simp at hf
        simp [wtFields, hwt.1, ih vs i f x hwt.2 hf hx]

theorem wtList_mem (S : Schema) (m : Nat) : ∀ (l : List Val) (fs : List Val),
    wtList S m l = true → Val.msg fs ∈ l → wtFields S (S.fieldsOf m) fs = true := by
  intro l
  induction l with
  | nil => intro fs _ h; simp at h
  | cons v l ih =>
    intro fs hwt hmem
    cases v with
    | msg fs' =>
      simp only [wtList, Bool.and_eq_true] at hwt
      rcases List.mem_cons.mp hmem with e | hm
      · cases e; exact hwt.1
      · exact ih fs hwt.2 hm
    | _ => simp [wtList] at hwt

theorem wtList_append (S : Schema) (m : Nat) : ∀ (l : List Val) (fs : List Val),
    wtList S m l = true → wtFields S (S.fieldsOf m) fs = true → wtList S m (l ++ [.msg fs]) = true := by
  intro l
  induction l with
  | nil => intro fs _ h; simp [wtList, h]
  | cons v l ih =>
    intro fs hl h
    cases v with
    | msg fs' =>
      simp only [wtList, Bool.and_eq_true] at hl
      simp [wtList, hl.1, ih fs hl.2 h]
    | _ => simp [wtList] at hl

/-- A message value (a singular field's, or an element of a repeated field) comes with the
    hypothesis for each of its fields' values. -/
theorem wtVal_induction (S : Schema) {motive : FType → Val → Prop}
    (scalar : ∀ k i, k.inRange i = true → motive (.scalar k) (.int i))
    (string : ∀ bs, okStr bs = true → motive .string (.str bs))
    (none : ∀ m, motive (.msg m) .none)
    (msg : ∀ m fs, wtFields S (S.fieldsOf m) fs = true →
      (∀ p ∈ (S.fieldsOf m).zip fs, motive p.1.ty p.2) → motive (.msg m) (.msg fs))
    (strs : ∀ l, l.all okStr = true → motive .repString (.strs l))
    (list : ∀ m l, wtList S m l = true →
      (∀ fs, Val.msg fs ∈ l → ∀ p ∈ (S.fieldsOf m).zip fs, motive p.1.ty p.2) →
      motive (.repMsg m) (.list l))
    (smap : ∀ l, l.all okEntry = true → (l.map (·.1)).Nodup → motive .mapSS (.smap l)) :
    ∀ ty v, wtVal S ty v = true → motive ty v
  | ty, .int i, h => by
    cases ty <;> simp only [wtVal, Bool.false_eq_true] at h
    exact scalar _ i h
  | ty, .str bs, h => by
    cases ty <;> simp only [wtVal, Bool.false_eq_true] at h
    exact string bs h
  | ty, .none, h => by
    cases ty <;> simp only [wtVal, Bool.false_eq_true] at h
    exact none _
  | ty, .msg fs, h => by
    cases ty <;> simp only [wtVal, Bool.false_eq_true] at h
    exact msg _ fs h fun p hp =>
      wtVal_induction S scalar string none msg strs list smap p.1.ty p.2 (wtFields_zip S _ _ h p hp)
  | ty, .strs l, h => by
    cases ty <;> simp only [wtVal, Bool.false_eq_true] at h
    exact strs l h
  | ty, .list l, h => by
    cases ty <;> simp only [wtVal, Bool.false_eq_true] at h
    exact list _ l h fun fs hfs p hp =>
      wtVal_induction S scalar string none msg strs list smap p.1.ty p.2
        (wtFields_zip S _ _ (wtList_mem S _ l fs h hfs) p hp)
  | ty, .smap l, h => by
    cases ty <;> simp only [wtVal, Bool.false_eq_true, Bool.and_eq_true, decide_eq_true_eq] at h
    exact smap l h.1 h.2
termination_by _ v => sizeOf v
decreasing_by
  · have := List.sizeOf_lt_of_mem (List.of_mem_zip hp).2
    simp only [Val.msg.sizeOf_spec]
    omega
  · have := List.sizeOf_lt_of_mem (List.of_mem_zip hp).2
    have := List.sizeOf_lt_of_mem hfs
    simp only [Val.msg.sizeOf_spec, Val.list.sizeOf_spec] at this ⊢
    omega

/-- the case analysis of `wtVal_induction`: no induction hypothesis is used -/
theorem wtVal_inv {S : Schema} : ∀ (ty : FType) (a : Val), wtVal S ty a = true →
    match ty with
    | .scalar k => ∃ i, a = .int i ∧ k.inRange i = true
    | .string => ∃ bs, a = .str bs ∧ okStr bs = true
    | .msg m => a = .none ∨ ∃ fs, a = .msg fs ∧ wtFields S (S.fieldsOf m) fs = true
    | .repString => ∃ l, a = .strs l ∧ l.all okStr = true
    | .repMsg m => ∃ l, a = .list l ∧ wtList S m l = true
    | .mapSS => ∃ l, a = .smap l ∧ l.all okEntry = true ∧ (l.map (·.1)).Nodup
    | .unsupported => False := by
  refine wtVal_induction S ?_ ?_ ?_ ?_ ?_ ?_ ?_
  · exact fun k i h => ⟨i, rfl, h⟩
  · exact fun bs h => ⟨bs, rfl, h⟩
  · exact fun m => .inl rfl
  · exact fun m fs h _ => .inr ⟨fs, rfl, h⟩
  · exact fun l h => ⟨l, rfl, h⟩
  · exact fun m l h _ => ⟨l, rfl, h⟩
  · exact fun l h hnd => ⟨l, rfl, h, hnd⟩

theorem wtFields_curMsg {S : Schema} (hS : S.WF = true) {m : Nat} {o : Option Val}
    (h : ∀ a, o = some a → wtVal S (.msg m) a = true) :
    wtFields S (S.fieldsOf m) (curMsg S m o) = true := by
  cases o with
  | none => exact wellTyped_emptyMsg S hS m
  | some a =>
    rcases wtVal_inv _ _ (h a rfl) with rfl | ⟨fs, rfl, hfs⟩
    · exact wellTyped_emptyMsg S hS m
    · exact hfs

end Nri.Wire
