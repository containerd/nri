/-
Decoding what the encoder wrote (C12). The decoder never resets the message it decodes into
(`UnmarshalVT` never resets its receiver; `proto.Unmarshal` does so once, up front), so the
statement that goes through the induction over nested values is the general one: the records of
a well-typed value `v`, decoded into a message holding a well-typed value `a`, leave the merge
of `v` into `a` (`decMsg_field`, per message `decMsg_msg`, for a whole encoding
`decMsg_encode_merge`). Merging into the empty message is the identity (`merge_emptyMsg`); the
round trip and the concatenation law of `Props/C12.lean` are read off from these.
-/
import NriModel.Lemmas.WireProps
import NriModel.Lemmas.AList

namespace Nri.Wire

theorem mergeFields_defaults (S : Schema) : ∀ (fs : List Field) (vs : List Val),
    vs.length = fs.length → (∀ p ∈ fs.zip vs, mergeVal S p.1.ty p.1.ty.default p.2 = p.2) →
    mergeFields S fs (fs.map (·.ty.default)) vs = vs := by
  intro fs
  induction fs with
  | nil => intro vs hl _; cases vs <;> simp_all [mergeFields]
  | cons f fs ih =>
    intro vs hl h
    cases vs with
    | nil => simp at hl
    | cons v vs =>
      simp only [List.map_cons, mergeFields]
      rw [h (f, v) (by simp), ih vs (by simpa using hl) (fun p hp => h p (by simp [hp]))]

theorem mergeVal_default (S : Schema) :
    ∀ ty v, wtVal S ty v = true → mergeVal S ty ty.default v = v := by
  refine wtVal_induction S ?_ ?_ ?_ ?_ ?_ ?_ ?_
  · intro k i _
    by_cases hi : i = 0 <;> simp [mergeVal, FType.default, hi]
  · intro bs _
    by_cases hb : bs = [] <;> simp [mergeVal, FType.default, hb]
  · intro m
    rfl
  · intro m fs hwt ih
    show Val.msg (mergeFields S (S.fieldsOf m) ((S.fieldsOf m).map (·.ty.default)) fs) = _
    rw [mergeFields_defaults S _ _ (wtFields_length S _ _ hwt) ih]
  · intro l _
    simp [mergeVal, FType.default]
  · intro m l _ _
    simp [mergeVal, FType.default]
  · intro l _ hnd
    simp only [mergeVal, FType.default]
    rw [insertAll, AList.foldl_insert l [] (by simpa using hnd), List.nil_append]

theorem merge_emptyMsg (S : Schema) (m : Nat) (v : List Val) (hv : WellTyped S m v = true) :
    merge S m (emptyMsg S m) v = v :=
  mergeFields_defaults S _ _ (wtFields_length S _ _ hv)
    fun p hp => mergeVal_default S _ _ (wtFields_zip S _ _ hv p hp)

/-- The records of field value `v` (of a field of type `ty`), decoded into a message whose slot
    for that field holds `a`, leave `mergeVal a v` there. The bound on the length is there for
    one reason only, here and in every lemma below: a length prefix is a 64-bit varint, so
    `parseField_lenDelim` reads a record back only if its payload is shorter than 2^64. -/
def FieldDec (S : Schema) (ty : FType) (v : Val) : Prop :=
  ∀ (f : Field) (m i : Nat) (acc : List Val) (a : Val) (rest : Bytes) (out : List Val),
    f.ty = ty → findField (S.fieldsOf m) f.num = some (i, f) → 1 ≤ f.num → f.num < 536870912 →
    acc[i]? = some a → wtVal S ty a = true → (encField S f v).length < 2 ^ 64 →
    Dec S m (acc.set i (mergeVal S ty a v)) rest out → Dec S m acc (encField S f v ++ rest) out

/-- the accumulator: the fields already merged, then the slots the remaining records go into -/
theorem decMsg_fields {S : Schema} (hS : S.WF = true) (m : Nat) {rest : Bytes} {out : List Val} :
    ∀ (post pre : List Field) (vpost apost mpre : List Val),
      S.fieldsOf m = pre ++ post → mpre.length = pre.length →
      wtFields S post apost = true → (∀ p ∈ post.zip vpost, FieldDec S p.1.ty p.2) →
      (encFields S post vpost).length < 2 ^ 64 →
      Dec S m (mpre ++ mergeFields S post apost vpost) rest out →
      Dec S m (mpre ++ apost) (encFields S post vpost ++ rest) out := by
  intro post
  induction post with
  | nil =>
    intro pre vpost apost mpre _ _ _ _ _ h
    simpa [encFields, mergeFields] using h
  | cons f post ih =>
    intro pre vpost apost mpre hsplit hlen hwa hn hb h
    cases vpost with
    | nil => simpa [encFields, mergeFields] using h
    | cons v vs =>
      cases apost with
      | nil => simp [wtFields] at hwa
      | cons a as =>
        simp only [wtFields, Bool.and_eq_true] at hwa
        simp only [encFields, List.length_append] at hb
        have hnum := Schema.WF.num hS (m := m) (f := f) (by rw [hsplit]; simp)
        have hfind : findField (S.fieldsOf m) f.num = some (mpre.length, f) := by
          rw [hsplit, hlen]
          exact findField_append pre f post (hsplit ▸ Schema.WF.nodup hS m)
        rw [encFields, List.append_assoc]
        refine hn (f, v) (by simp) f m mpre.length _ a _ out rfl hfind hnum.1 hnum.2 (by simp)
          hwa.1 (show (encField S f v).length < 2 ^ 64 by omega) ?_
        have hset : (mpre ++ a :: as).set mpre.length (mergeVal S f.ty a v)
            = (mpre ++ [mergeVal S f.ty a v]) ++ as := by
          simp
        rw [hset]
        exact ih (pre ++ [f]) vs as _ (by simp [hsplit]) (by simp [hlen]) hwa.2
          (fun p hp => hn p (by simp [hp])) (by omega) (by simpa [mergeFields] using h)

theorem decMsg_msg {S : Schema} (hS : S.WF = true) (m : Nat) (fs cur : List Val)
    (hn : ∀ p ∈ (S.fieldsOf m).zip fs, FieldDec S p.1.ty p.2)
    (hcur : wtFields S (S.fieldsOf m) cur = true)
    (hb : (encFields S (S.fieldsOf m) fs).length < 2 ^ 64) :
    Dec S m cur (encFields S (S.fieldsOf m) fs) (mergeFields S (S.fieldsOf m) cur fs) := by
  have := decMsg_fields hS m (rest := []) (S.fieldsOf m) [] fs cur [] (by simp) rfl hcur hn hb
    (by simpa using Dec.nil)
  simpa using this

theorem insertAll_cons (l : List (Bytes × Bytes)) (e : Bytes × Bytes) (es : List (Bytes × Bytes)) :
    insertAll l (e :: es) = insertAll (AList.insert l e.1 e.2) es := rfl

section
variable {S : Schema} {m i : Nat} {f : Field} {rest : Bytes} {out : List Val}
  (hfind : findField (S.fieldsOf m) f.num = some (i, f)) (h1 : 1 ≤ f.num) (h2 : f.num < 536870912)
include hfind h1 h2

theorem decMsg_strs (hty : f.ty = .repString) :
    ∀ (l prev : List Bytes) (acc : List Val), acc[i]? = some (.strs prev) → l.all okStr = true →
      (encStrs f.num l).length < 2 ^ 64 → Dec S m (acc.set i (.strs (prev ++ l))) rest out →
      Dec S m acc (encStrs f.num l ++ rest) out := by
  intro l
  induction l with
  | nil =>
    intro prev acc hacc _ _ h
    simpa [encStrs, set_same hacc] using h
  | cons s l ih =>
    intro prev acc hacc hok hb h
    simp only [List.all_cons, Bool.and_eq_true] at hok
    simp only [encStrs, List.length_append] at hb
    have hi : i < acc.length := (List.getElem?_eq_some_iff.mp hacc).1
    rw [encStrs, List.append_assoc]
    refine Dec.lenDelim h1 h2 (by omega) (acc' := acc.set i (.strs (prev ++ [s]))) (fun fuel _ => ?_) ?_
    · simp [applyItem, hfind, hty, hok.1, hacc]
    · refine ih (prev ++ [s]) _ (by simp [hi]) hok.2 (by omega) ?_
      simpa [List.set_set] using h

theorem decMsg_map (hty : f.ty = .mapSS) :
    ∀ (l prev : List (Bytes × Bytes)) (acc : List Val), acc[i]? = some (.smap prev) →
      l.all okEntry = true → (encMap f.num l).length < 2 ^ 64 →
      Dec S m (acc.set i (.smap (insertAll prev l))) rest out →
      Dec S m acc (encMap f.num l ++ rest) out := by
  intro l
  induction l with
  | nil =>
    intro prev acc hacc _ _ h
    simpa [encMap, insertAll, set_same hacc] using h
  | cons e l ih =>
    obtain ⟨k, v⟩ := e
    intro prev acc hacc hok hb h
    simp only [List.all_cons, Bool.and_eq_true, okEntry] at hok
    simp only [encMap, List.length_append] at hb
    have hpos := lenDelim_length_pos f.num (encEntry k v)
    have hep := encEntry_length_pos k v
    have hi : i < acc.length := (List.getElem?_eq_some_iff.mp hacc).1
    simp only [encMap, List.append_assoc]
    refine Dec.lenDelim h1 h2 (by omega) (acc' := acc.set i (.smap (AList.insert prev k v)))
      (fun fuel _ => ?_) ?_
    · simp [applyItem, hfind, hty, hacc,
        decEntry_encEntry (encEntry k v).length (by omega) k v hok.1.1 hok.1.2 (by omega) (by omega)]
    · refine ih (AList.insert prev k v) _ (by simp [hi]) hok.2 (by omega) ?_
      simpa [List.set_set, insertAll_cons] using h

theorem decMsg_rep (hS : S.WF = true) {m' : Nat} (hty : f.ty = .repMsg m') :
    ∀ (l prev : List Val) (acc : List Val), acc[i]? = some (.list prev) → wtList S m' l = true →
      (∀ fs, Val.msg fs ∈ l → ∀ p ∈ (S.fieldsOf m').zip fs, FieldDec S p.1.ty p.2) →
      (encRep S f.num m' l).length < 2 ^ 64 →
      Dec S m (acc.set i (.list (prev ++ l))) rest out →
      Dec S m acc (encRep S f.num m' l ++ rest) out := by
  intro l
  induction l with
  | nil =>
    intro prev acc hacc _ _ _ h
    simpa [encRep, set_same hacc] using h
  | cons v l ih =>
    intro prev acc hacc hwt hn hb h
    cases v with
    | msg fs =>
      simp only [wtList, Bool.and_eq_true] at hwt
      simp only [encRep, List.length_append] at hb
      have hpos := lenDelim_length_pos f.num (encFields S (S.fieldsOf m') fs)
      have hi : i < acc.length := (List.getElem?_eq_some_iff.mp hacc).1
      rw [encRep, List.append_assoc]
      refine Dec.lenDelim h1 h2 (by omega) (acc' := acc.set i (.list (prev ++ [.msg fs])))
        (fun fuel hf => ?_) ?_
      · have := decMsg_msg hS m' fs _ (hn fs (by simp)) (wellTyped_emptyMsg S hS m')
          (by omega) fuel hf
        rw [show mergeFields S _ _ fs = fs from merge_emptyMsg S m' fs hwt.1] at this
        simp [applyItem, hfind, hty, hacc, this]
      · refine ih (prev ++ [.msg fs]) _ (by simp [hi]) hwt.2
          (fun fs' hm => hn fs' (by simp [hm])) (by omega) ?_
        simpa [List.set_set] using h
    | _ => simp [wtList] at hwt

end

theorem decMsg_field {S : Schema} (hS : S.WF = true) :
    ∀ ty v, wtVal S ty v = true → FieldDec S ty v := by
  refine wtVal_induction S ?_ ?_ ?_ ?_ ?_ ?_ ?_
  · intro k x hx f m i acc a rest out hty hfind h1 h2 hacc _ hb h
    simp only [encField, hty] at hb ⊢
    simp only [mergeVal] at h
    by_cases h0 : x = 0
    · simpa [h0, set_same hacc] using h
    · simp only [h0, if_false] at hb h ⊢
      rw [List.append_assoc]
      refine Dec.record (parseField_varint _ _ _ h1 h2 (toU64_lt k x hx)) (fun fuel _ => ?_) h
      simp [applyItem, hfind, hty, ofU64_toU64 k x hx]
  · intro bs hbs f m i acc a rest out hty hfind h1 h2 hacc _ hb h
    simp only [encField, hty] at hb ⊢
    simp only [mergeVal] at h
    by_cases h0 : bs = []
    · simpa [h0, set_same hacc] using h
    · simp only [h0, if_false] at hb h ⊢
      refine Dec.lenDelim h1 h2 hb (fun fuel _ => ?_) h
      simp [applyItem, hfind, hty, hbs]
  · intro m' f m i acc a rest out _ _ _ _ hacc _ _ h
    simpa [encField, mergeVal, set_same hacc] using h
  · intro m' fs _ ih f m i acc a rest out hty hfind h1 h2 hacc hwa hb h
    simp only [encField, hty] at hb ⊢
    simp only [mergeVal] at h
    have hpos := lenDelim_length_pos f.num (encFields S (S.fieldsOf m') fs)
    refine Dec.lenDelim h1 h2 hb (fun fuel hf => ?_) h
    have := decMsg_msg hS m' fs _ ih (wtFields_curMsg hS fun _ e => Option.some.inj e ▸ hwa) (by omega) fuel hf
    simp [applyItem, hfind, hty, hacc, this]
  · intro l hl f m i acc a rest out hty hfind h1 h2 hacc hwa hb h
    obtain ⟨l0, rfl, -⟩ := wtVal_inv _ _ hwa
    simp only [encField, hty] at hb ⊢
    exact decMsg_strs hfind h1 h2 hty l l0 acc hacc hl hb (by simpa [mergeVal] using h)
  · intro m' l hl ih f m i acc a rest out hty hfind h1 h2 hacc hwa hb h
    obtain ⟨l0, rfl, -⟩ := wtVal_inv _ _ hwa
    simp only [encField, hty] at hb ⊢
    exact decMsg_rep hfind h1 h2 hS hty l l0 acc hacc hl ih hb (by simpa [mergeVal] using h)
  · intro l hl _ f m i acc a rest out hty hfind h1 h2 hacc hwa hb h
    obtain ⟨l0, rfl, -⟩ := wtVal_inv _ _ hwa
    simp only [encField, hty] at hb ⊢
    exact decMsg_map hfind h1 h2 hty l l0 acc hacc hl hb (by simpa [mergeVal] using h)

theorem decMsg_encode_merge (S : Schema) (hS : S.WF = true) (m : Nat) (a b : List Val)
    (ha : WellTyped S m a = true) (hb : WellTyped S m b = true)
    (hlen : (encode S m b).length < 2 ^ 64) : Dec S m a (encode S m b) (merge S m a b) :=
  decMsg_msg hS m b a (fun p hp => decMsg_field hS _ _ (wtFields_zip S _ _ hb p hp)) ha hlen

end Nri.Wire
