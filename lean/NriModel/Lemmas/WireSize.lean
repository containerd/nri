/-
Size lemmas for the wire model (C12): the size computed without building the bytes is the
length of what the encoder writes — for every schema and every value (typed or not).
-/
import NriModel.Lemmas.WireDecode

namespace Nri.Wire

theorem encStrs_length (num : Nat) (l : List Bytes) : (encStrs num l).length = sizeStrs num l := by
  induction l with
  | nil => rfl
  | cons s r ih => simp [encStrs, sizeStrs, lenDelim_length, ih]

theorem encMap_length (num : Nat) (l : List (Bytes × Bytes)) : (encMap num l).length = sizeMap num l := by
  induction l with
  | nil => rfl
  | cons e r ih => simp [encMap, sizeMap, lenDelim_length, encEntry_length, ih]

mutual
theorem encField_length (S : Schema) (f : Field) : ∀ v, (encField S f v).length = sizeField S f v
  | .int i => by
    simp only [encField, sizeField]
    split
    · split <;> simp [tag, encodeVarint_length]
    · rfl
  | .str bs => by
    simp only [encField, sizeField]
    split
    · split <;> simp [lenDelim_length]
    · rfl
  | .none => rfl
  | .msg fs => by
    simp only [encField, sizeField]
    split
    · rw [lenDelim_length, encFields_length S _ fs]
    · rfl
  | .strs l => by
    simp only [encField, sizeField]
    split
    · exact encStrs_length _ _
    · rfl
  | .list l => by
    simp only [encField, sizeField]
    split
    · exact encRep_length S f.num _ l
    · rfl
  | .smap l => by
    simp only [encField, sizeField]
    split
    · exact encMap_length _ _
    · rfl
theorem encFields_length (S : Schema) : ∀ (fs : List Field) (vs : List Val),
    (encFields S fs vs).length = sizeFields S fs vs
  | [], _ => by simp [encFields, sizeFields]
  | _ :: _, [] => by simp [encFields, sizeFields]
  | f :: fs, v :: vs => by
    simp only [encFields, sizeFields, List.length_append]
    rw [encField_length S f v, encFields_length S fs vs]
theorem encRep_length (S : Schema) (num m : Nat) : ∀ (l : List Val),
    (encRep S num m l).length = sizeRep S num m l
  | [] => by simp [encRep, sizeRep]
  | .msg fs :: vs => by
    simp only [encRep, sizeRep, List.length_append]
    rw [encRep_length S num m vs, lenDelim_length, encFields_length S (S.fieldsOf m) fs]
  | .none :: vs => by
    simp only [encRep, sizeRep, List.length_append]
    rw [encRep_length S num m vs, lenDelim_length]
    simp
  | .int _ :: vs | .str _ :: vs | .strs _ :: vs | .list _ :: vs | .smap _ :: vs => by
    simp only [encRep, sizeRep, List.length_append]
    rw [encRep_length S num m vs]
    simp
end

end Nri.Wire
