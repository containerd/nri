/-
Varint and scalar-conversion lemmas for the wire model (C12).
-/
import NriModel.Wire

namespace Nri.Wire

theorem decVarintAux_enc (f n : Nat) (r : Bytes) (h : n < 2 * 128 ^ f) :
    decVarintAux f (encVarintAux f n ++ r) = some (n, r) := by
  fun_induction encVarintAux f n
  · simp only [Nat.pow_zero] at h
    simp [decVarintAux, h]
  · simp [decVarintAux, *]
  · rename_i f n hn ih
    rw [Nat.pow_succ] at h
    have hb : ¬ (n % 128 + 128 < 128) := by omega
    simp only [List.cons_append, decVarintAux, hb, if_false, ih (by omega)]
    congr 2
    omega

theorem two_mul_pow_nine : 2 * 128 ^ 9 = 2 ^ 64 := by decide

theorem decodeVarint_encodeVarint (n : Nat) (r : Bytes) (h : n < 2 ^ 64) :
    decodeVarint (encodeVarint n ++ r) = some (n, r) :=
  decVarintAux_enc 9 n r (two_mul_pow_nine ▸ h)

theorem encVarintAux_length (f n : Nat) : (encVarintAux f n).length = sizeVarintAux f n := by
  fun_induction encVarintAux f n <;> simp [sizeVarintAux, *]
  omega

theorem encodeVarint_length (n : Nat) : (encodeVarint n).length = sizeVarint n :=
  encVarintAux_length 9 n

theorem sizeVarintAux_pos (f n : Nat) : 1 ≤ sizeVarintAux f n := by
  cases f with
  | zero => simp [sizeVarintAux]
  | succ f => unfold sizeVarintAux; split <;> omega

theorem sizeVarint_pos (n : Nat) : 1 ≤ sizeVarint n := sizeVarintAux_pos 9 n

theorem encodeVarint_length_pos (n : Nat) : 1 ≤ (encodeVarint n).length :=
  encodeVarint_length n ▸ sizeVarint_pos n

theorem encVarintAux_lt (f n : Nat) (h : n < 2 * 128 ^ f) : ∀ b ∈ encVarintAux f n, b < 256 := by
  fun_induction encVarintAux f n
  · simp only [Nat.pow_zero] at h
    simp
    omega
  · simp
    omega
  · rename_i f n hn ih
    rw [Nat.pow_succ] at h
    simp only [List.mem_cons, forall_eq_or_imp]
    exact ⟨by omega, ih (by omega)⟩
theorem encodeVarint_lt (n : Nat) (h : n < 2 ^ 64) : ∀ b ∈ encodeVarint n, b < 256 :=
  encVarintAux_lt 9 n (two_mul_pow_nine ▸ h)

theorem decVarintAux_suffix (f : Nat) (bs : Bytes) (v : Nat) (r : Bytes)
    (h : decVarintAux f bs = some (v, r)) : ∃ pre, pre ≠ [] ∧ bs = pre ++ r := by
  fun_induction decVarintAux f bs generalizing v r <;> cases h
  · exact ⟨[_], by simp, rfl⟩
  · exact ⟨[_], by simp, rfl⟩
  · rename_i b _ _ _ _ hrec ih
    obtain ⟨pre, hne, rfl⟩ := ih _ _ hrec
    exact ⟨b :: pre, by simp, rfl⟩

theorem decVarintAux_length (f : Nat) : ∀ (bs : Bytes) (v : Nat) (r : Bytes),
    decVarintAux f bs = some (v, r) → r.length < bs.length := by
  intro bs v r h
  obtain ⟨pre, hne, rfl⟩ := decVarintAux_suffix f bs v r h
  have := List.length_pos_iff.mpr hne
  simp only [List.length_append]
  omega

theorem decVarintAux_lt (f : Nat) (bs : Bytes) (v : Nat) (r : Bytes)
    (hb : ∀ b ∈ bs, b < 256) (h : decVarintAux f bs = some (v, r)) : v < 2 * 128 ^ f := by
  fun_induction decVarintAux f bs generalizing v r <;> cases h
  · omega
  · rename_i f _ _ _
    have := Nat.pow_pos (n := f + 1) (show 0 < 128 by omega)
    omega
  · rename_i f b _ _ _ _ hrec ih
    have := ih _ _ (fun x hx => hb x (by simp [hx])) hrec
    have := hb b (by simp)
    rw [Nat.pow_succ]
    omega
theorem decodeVarint_lt (bs : Bytes) (v : Nat) (r : Bytes) (hb : ∀ b ∈ bs, b < 256)
    (h : decodeVarint bs = some (v, r)) : v < 2 ^ 64 :=
  two_mul_pow_nine ▸ decVarintAux_lt 9 bs v r hb h

theorem toU64_lt (k : Scalar) (i : Int) (h : k.inRange i = true) : toU64 k i < 2 ^ 64 := by
  cases k <;> simp only [Scalar.inRange, decide_eq_true_eq] at h <;> simp only [toU64] <;>
    (try split) <;> omega

theorem ofU64_toU64_int32 (i : Int) (h : Scalar.inRange .int32 i = true) :
    ofU64 .int32 (toU64 .int32 i) = i := by
  simp only [Scalar.inRange, decide_eq_true_eq] at h
  simp only [toU64, ofU64]
  split <;> split <;> omega

theorem ofU64_toU64 (k : Scalar) (i : Int) (h : k.inRange i = true) : ofU64 k (toU64 k i) = i := by
  cases k with
  | int32 => exact ofU64_toU64_int32 i h
  | enum => exact ofU64_toU64_int32 i h  -- an enum is an int32 in all three functions
  | bool =>
    simp only [Scalar.inRange, decide_eq_true_eq] at h
    rcases h with rfl | rfl <;> rfl
  | int64 =>
    simp only [Scalar.inRange, decide_eq_true_eq] at h
    simp only [toU64, ofU64]
    split <;> split <;> omega
  | uint32 | uint64 =>
    simp only [Scalar.inRange, decide_eq_true_eq] at h
    simp only [toU64, ofU64]
    omega

theorem ofU64_inRange (k : Scalar) (x : Nat) (h : x < 2 ^ 64) : k.inRange (ofU64 k x) = true := by
  cases k <;> simp only [Scalar.inRange, decide_eq_true_eq] <;> simp only [ofU64] <;>
    (try split) <;> omega

theorem toU64_ne_zero (k : Scalar) (i : Int) (h : k.inRange i = true) (hi : i ≠ 0) :
    toU64 k i ≠ 0 := by
  intro e
  have := ofU64_toU64 k i h
  rw [e] at this
  exact hi (this ▸ by cases k <;> rfl)

end Nri.Wire
