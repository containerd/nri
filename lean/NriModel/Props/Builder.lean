import NriModel.Lemmas.BuilderChain
import NriModel.Props.C01
import NriModel.Props.C02
import NriModel.Props.C05
/-!
# The plugin-author helper API (pkg/api/adjustment.go, pkg/api/update.go) — program level

Model: `Nri.Builder` (`lean/NriModel/Builder.lean`): `AOp`/`UOp` = one constructor per exported
helper, `runA`/`runU` = the message a PROGRAM of helper calls leaves in a fresh
`ContainerAdjustment` / `ContainerUpdate`. The collector theorems C01/C02/C05 start from such a
message; the theorems here start from the program, for ALL programs (induction over the list
of calls), through the same vocabulary (`Result.adjustSets`, `Ledger.removesAdj/setsOn/removesOn`,
`Result.run`, `UpdateWalk.walk`).

Which relation, and why.
* sets: `List.Perm` (`builder_sets_eq`). The order of `adjustSets` is the fixed order in which
  `result.adjust` claims the families, that of `progSets` the order of the calls; the ledger's
  verdict (`claimAll`) does not depend on the order, only which conflict is reported first
  does. Multiplicity DOES matter: `AddEnv("X",…)` twice is two mentions and the collector
  reports a conflict of the plugin with itself, whereas `AddAnnotation("k",…)` twice or
  `SetLinuxCPUShares` twice is one map entry / one field. `Perm` keeps exactly that.
* clears: equality as sets (`builder_clears_eq`). Releasing a claim is idempotent
  (`Result.clearAll`): how often and in which order a key is marked has no effect.

Guards. None on the programs: keys that begin with '-' (an `AddEnv("-X",…)` is read by the
collector as a removal of X) and empty keys are covered by the reading (`unmarked`). The one
call that is not a program step is `AddHooks(nil)`: it panics (`Builder.ACall.addHooksNil`).
-/
namespace Nri.Props.Builder
open Nri Nri.NApi Nri.Result Nri.Ledger Nri.UpdateWalk Nri.Builder

/-- **Sets.** The items the message built by ANY program sets are, up to order, the items the
    syntactic reading lists — with the same multiplicities. -/
theorem builder_sets_eq (prog : List AOp) : (adjustSets (runA prog)).Perm (progSets prog) :=
  runA_sets_perm prog

theorem builder_sets_mem (prog : List AOp) (it : Item) : it ∈ adjustSets (runA prog) ↔ it ∈ progSets prog :=
  (runA_sets_perm prog).mem_iff

theorem builder_sets_nodup (prog : List AOp) : (adjustSets (runA prog)).Nodup ↔ (progSets prog).Nodup :=
  (runA_sets_perm prog).nodup_iff

-- removal marker, lazily allocated linux section, a map entry assigned twice, a slice entry
-- appended twice, a scalar set and unset again, an annotation key that is itself a marker
example :
    progSets [.removeEnv (str "X"), .addEnv (str "X") (str "v"), .setLinuxCPUShares 5,
              .addAnnotation (str "k") (str "1"), .addAnnotation (str "k") (str "2"),
              .addEnv (str "X") (str "w"), .setLinuxCPUSetCPUs (str "0-3"), .setLinuxCPUSetCPUs [],
              .addAnnotation (str "-gone") (str "ignored"), .updateArgs [str "sh"]]
      = [.env (str "X"), .cpuShares, .annotation (str "k"), .env (str "X"), .args] ∧
    adjustSets (runA [.removeEnv (str "X"), .addEnv (str "X") (str "v"), .setLinuxCPUShares 5,
              .addAnnotation (str "k") (str "1"), .addAnnotation (str "k") (str "2"),
              .addEnv (str "X") (str "w"), .setLinuxCPUSetCPUs (str "0-3"), .setLinuxCPUSetCPUs [],
              .addAnnotation (str "-gone") (str "ignored"), .updateArgs [str "sh"]])
      = [.annotation (str "k"), .env (str "X"), .env (str "X"), .args, .cpuShares] := by decide +kernel

/-- **Clears.** The items the message built by ANY program marks for removal are, as a set, the
    items the syntactic reading lists. -/
theorem builder_clears_eq (prog : List AOp) (it : Item) : it ∈ removesAdj (runA prog) ↔ it ∈ progClears prog :=
  runA_clears_mem prog it

/-- the owners the collector actually clears for it are among them, whatever the state -/
theorem builder_adjustClears_sub (st : State) (prog : List AOp) (it : Item)
    (h : it ∈ adjustClears Quirks.fixed st (runA prog)) : it ∈ progClears prog :=
  (runA_clears_mem prog it).1 (adjustClears_subset_removes st _ it h)

-- `UpdateArgs` marks the command line, a later `SetArgs` takes the mark away again;
-- `SetArgs(["", …])` is indistinguishable from `UpdateArgs([…])`
example :
    progClears [.removeMount (str "/m"), .updateArgs [str "a"], .removeAnnotation (str "k"), .removeMount (str "/m")]
      = [.mount (str "/m"), .args, .annotation (str "k")] ∧
    progClears [.updateArgs [str "a"], .setArgs [str "b"]] = [] ∧
    progClears [.setArgs [[], str "b"]] = [.args] ∧
    removesAdj (runA [.removeMount (str "/m"), .updateArgs [str "a"], .removeAnnotation (str "k"), .removeMount (str "/m")])
      = [.annotation (str "k"), .mount (str "/m"), .mount (str "/m"), .args] := by decide +kernel

/-- **Update programs.** What `updateResources` claims for the update a program builds is, up
    to order and with multiplicities, what the program names — in every collector state. -/
theorem builder_updSets_eq (st : State) (prog : List UOp) :
    (updSets Quirks.fixed st (runU prog)).Perm (progSetsU prog) := by
  rw [updSets_fixed]; exact runU_sets_perm prog

/-- target and ignore flag of the update a program builds: the last `SetContainerId`, and
    whether `SetIgnoreFailure` was called at all -/
theorem builder_update_header (prog : List UOp) :
    (runU prog).containerId = progTarget prog ∧ (runU prog).ignoreFailure = progIgnore prog :=
  ⟨runU_target prog, runU_ignore prog⟩

example :
    progSetsU [.setContainerId (str "a"), .setLinuxMemoryLimit 1, .addLinuxHugepageLimit (str "2M") 4,
               .setContainerId (str "b"), .setLinuxMemoryLimit 2, .addLinuxUnified (str "u") (str "1"),
               .setIgnoreFailure, .addLinuxUnified (str "u") (str "2")]
      = [.memLimit, .hugepage (str "2M"), .unified (str "u")] ∧
    progTarget [.setContainerId (str "a"), .setLinuxMemoryLimit 1, .setContainerId (str "b")] = str "b" ∧
    runU [.setContainerId (str "a"), .setLinuxMemoryLimit 1, .setContainerId (str "b"), .setIgnoreFailure,
          .setLinuxMemoryLimit 2]
      = { containerId := str "b", ignoreFailure := true, resources := some { memory := some { limit := some 2 } } } := by
  decide +kernel

/-- **Responses.** `Ledger.setsOn` / `removesOn` — the vocabulary C01 and C02 are stated in — of
    the response a plugin's programs build, read off the programs. -/
theorem builder_setsOn (strict : Bool) (k : Kind) (pp : PluginProg) (c : Cid) (it : Item) :
    it ∈ setsOn strict k pp.response c ↔ it ∈ progSetsOn strict k pp c := mem_progSetsOn strict k pp c it

theorem builder_removesOn (k : Kind) (pp : PluginProg) (c : Cid) (it : Item) :
    it ∈ removesOn k pp.response c ↔ it ∈ progRemovesOn k pp c := mem_progRemovesOn k pp c it

/-! ## C01 at program level -/

/-- **Two programs setting the same item ⇒ the request fails.** Plugin `pi`'s programs and a
    later plugin `pj`'s programs both (strictly) set `it` on `c`; `pj`'s adjustment program does
    not release it and no response in between does: `run` fails — for every state, every chain
    before, between and after. -/
theorem builder_collision_flagged (st : State) (pre mid post : List (Plugin × Option Response))
    (pi pj : Plugin) (ppi ppj : PluginProg) (c : Cid) (it : Item)
    (hsi : it ∈ progSetsOn true st.kind ppi c) (hsj : it ∈ progSetsOn true st.kind ppj c)
    (hnj : it ∉ progRemovesOn st.kind ppj c)
    (hmid : ∀ p r, (p, some r) ∈ mid → it ∉ removesOn st.kind r c) :
    ∃ e, run Quirks.fixed st (pre ++ (pi, some ppi.response) :: (mid ++ (pj, some ppj.response) :: post)) = .error e :=
  C01.C01_collision_flagged st pre mid post pi pj ppi.response ppj.response c it
    ((builder_setsOn _ _ _ _ _).2 hsi) ((builder_setsOn _ _ _ _ _).2 hsj)
    (fun h => hnj ((builder_removesOn _ _ _ _).1 h)) hmid

/-- the same with the plugins in between given as programs too -/
theorem builder_collision_flagged_progs (st : State) (pre post : List (Plugin × Option Response))
    (mid : List (Plugin × PluginProg)) (pi pj : Plugin) (ppi ppj : PluginProg) (c : Cid) (it : Item)
    (hsi : it ∈ progSetsOn true st.kind ppi c) (hsj : it ∈ progSetsOn true st.kind ppj c)
    (hnj : it ∉ progRemovesOn st.kind ppj c)
    (hmid : ∀ x ∈ mid, it ∉ progRemovesOn st.kind x.2 c) :
    ∃ e, run Quirks.fixed st (pre ++ (pi, some ppi.response) ::
      ((mid.map fun x => (x.1, some x.2.response)) ++ (pj, some ppj.response) :: post)) = .error e := by
  apply builder_collision_flagged st pre _ post pi pj ppi ppj c it hsi hsj hnj
  intro p r hm hr
  obtain ⟨x, hx, heq⟩ := List.mem_map.1 hm
  cases heq
  exact hmid x hx ((builder_removesOn _ _ _ _).1 hr)

private def isErr : Except Err State → Bool | .error _ => true | .ok _ => false

-- 10-a: AddEnv X; 20-b: an unrelated annotation; 30-c: AddEnv X without RemoveEnv ⇒ failure;
-- with `RemoveEnv X` anywhere in 30-c's program the same chain succeeds
example :
    Item.env (str "X") ∈ progSetsOn true (.create (str "c0")) { adjust := some [.addEnv (str "X") (str "a")] } (str "c0") ∧
    Item.env (str "X") ∉ progRemovesOn (.create (str "c0")) { adjust := some [.addEnv (str "X") (str "c")] } (str "c0") ∧
    isErr (run Quirks.fixed (initCreate { id := str "c0" })
      [(str "10-a", some (PluginProg.response { adjust := some [.addEnv (str "X") (str "a")] })),
       (str "20-b", some (PluginProg.response { adjust := some [.addAnnotation (str "k") (str "v")] })),
       (str "30-c", some (PluginProg.response { adjust := some [.addEnv (str "X") (str "c")] }))]) = true ∧
    isErr (run Quirks.fixed (initCreate { id := str "c0" })
      [(str "10-a", some (PluginProg.response { adjust := some [.addEnv (str "X") (str "a")] })),
       (str "20-b", some (PluginProg.response { adjust := some [.addAnnotation (str "k") (str "v")] })),
       (str "30-c", some (PluginProg.response { adjust := some [.addEnv (str "X") (str "c"), .removeEnv (str "X")] }))]) = false := by
  decide +kernel

/-! ## C02 at program level -/

theorem builder_released_conflict_is_own (st0 st : State) (hfresh : st0.owners = [])
    (pre : List (Plugin × Option Response)) (hpre : run Quirks.fixed st0 pre = .ok st)
    (p : Plugin) (prog : List AOp) (it : Item) (hrel : it ∈ progClears prog) (c : Cid) (p' q : Plugin)
    (herr : adjust Quirks.fixed st p (some (runA prog)) = .error (.conflict c it p' q)) :
    q = p ∧ 2 ≤ (progSets prog).count it := by
  have rh := replyHolds_run (replyHolds_fresh st0 hfresh) hpre
  have := released_conflict_is_own rh herr ((builder_clears_eq prog it).2 hrel)
  rwa [(builder_sets_eq prog).count_eq] at this

/-- **A released item never raises a conflict with an earlier plugin.** After ANY earlier plugins
    (any chain `pre` from the fresh state of any request), the adjustment a program builds does
    not fail on an item the program releases and mentions at most once — whoever owned it.
    (Mentioned twice, it is the plugin's conflict with itself: `builder_released_conflict_is_own`.) -/
theorem builder_released_never_conflicts (st0 st : State) (hfresh : st0.owners = [])
    (pre : List (Plugin × Option Response)) (hpre : run Quirks.fixed st0 pre = .ok st)
    (p : Plugin) (prog : List AOp) (it : Item) (hrel : it ∈ progClears prog)
    (hone : (progSets prog).count it ≤ 1) (c : Cid) (p' q : Plugin) :
    adjust Quirks.fixed st p (some (runA prog)) ≠ .error (.conflict c it p' q) := by
  intro herr
  have := (builder_released_conflict_is_own st0 st hfresh pre hpre p prog it hrel c p' q herr).2
  omega

/-- **Remove-then-Add programs.** In a program in which every Add of a removable kind —
    annotation, mount, environment variable, device; the command line via `UpdateArgs` — comes
    with the matching Remove (`removeThenAdd`) and no such item is added twice, the adjustment,
    applied after ANY earlier plugins, can only fail on an item that has no removal form
    (a resource field, rlimit, CDI device, cgroups path, OOM score): never on the released ones. -/
theorem builder_remove_then_add_never_conflicts (st0 st : State) (hfresh : st0.owners = [])
    (pre : List (Plugin × Option Response)) (hpre : run Quirks.fixed st0 pre = .ok st)
    (p : Plugin) (prog : List AOp) (hrta : removeThenAdd prog = true)
    (hone : ∀ it, removable it = true → (progSets prog).count it ≤ 1)
    (e : Err) (herr : adjust Quirks.fixed st p (some (runA prog)) = .error e) :
    ∃ it q, e = .conflict (cidOf st.kind) it p q ∧ removable it = false := by
  obtain ⟨a', it, w, ha, hm, he, _⟩ := adjust_error_inv _ st p _ e herr
  cases ha
  refine ⟨it, w, he, ?_⟩
  cases hr : removable it with
  | false => rfl
  | true =>
    exfalso
    have hin : it ∈ progSets prog := (builder_sets_mem prog it).1 hm
    have hcl : it ∈ progClears prog := by
      unfold removeThenAdd at hrta
      have := List.all_eq_true.1 hrta it hin
      simp only [hr, Bool.not_true, Bool.false_or] at this
      exact List.contains_iff_mem.1 this
    rw [he] at herr
    exact builder_released_never_conflicts st0 st hfresh pre hpre p prog it hcl (hone it hr) _ _ _ herr

-- 10-a sets env X, mount /m, annotation k and the command line; 20-b removes and re-adds all
-- four (in either order) plus a device nobody had: accepted. Without the Removes: refused.
example :
    removeThenAdd [.removeEnv (str "X"), .addEnv (str "X") (str "b"), .addMount { destination := str "/m" },
                   .removeMount (str "/m"), .removeAnnotation (str "k"), .addAnnotation (str "k") (str "b"),
                   .updateArgs [str "sh"], .removeDevice (str "/dev/d"), .addDevice { path := str "/dev/d" }] = true ∧
    isErr (run Quirks.fixed (initCreate { id := str "c0" })
      [(str "10-a", some (PluginProg.response { adjust := some [.addEnv (str "X") (str "a"), .addMount { destination := str "/m" },
          .addAnnotation (str "k") (str "a"), .setArgs [str "init"]] })),
       (str "20-b", some (PluginProg.response { adjust := some [.removeEnv (str "X"), .addEnv (str "X") (str "b"),
          .addMount { destination := str "/m" }, .removeMount (str "/m"), .removeAnnotation (str "k"),
          .addAnnotation (str "k") (str "b"), .updateArgs [str "sh"], .removeDevice (str "/dev/d"),
          .addDevice { path := str "/dev/d" }] }))]) = false ∧
    isErr (run Quirks.fixed (initCreate { id := str "c0" })
      [(str "10-a", some (PluginProg.response { adjust := some [.addEnv (str "X") (str "a")] })),
       (str "20-b", some (PluginProg.response { adjust := some [.addEnv (str "X") (str "b")] }))]) = true := by decide +kernel

/-- **Programs naming disjoint items never conflict.** Any number of plugins answer a creation
    request with adjustment programs; if, read off the programs, no item is named twice — neither
    inside one program nor by two — the request succeeds, whatever the original container holds. -/
theorem builder_disjoint_never_conflict (c0 : Container) (progs : List (Plugin × List AOp))
    (hnd : (progs.flatMap fun x => progSets x.2).Nodup) :
    ∃ st', run Quirks.fixed (initCreate c0) (answeredAll (adjChain progs)) = .ok st' := by
  obtain ⟨owned', h⟩ := absRun_adjChain c0.id progs [] (by intro c it h; cases h) hnd
  exact C02.C02_disjoint_create c0 (adjChain progs) owned' h

/-- the same for update programs, in any request: no (target, item) pair named twice, no update of
    the container being created -/
theorem builder_disjoint_updates (st : State) (hfresh : st.owners = []) (pps : List (Plugin × PluginProg))
    (owned' : List (Cid × Item))
    (h : absRun st.kind [] (pps.map fun x => (x.1, x.2.response)) = some owned') :
    ∃ st', run Quirks.fixed st (answeredAll (pps.map fun x => (x.1, x.2.response))) = .ok st' :=
  C02.C02_disjoint st hfresh _ owned' h

example :
    ((([(str "10-a", [AOp.addEnv (str "X") (str "a"), .setLinuxCPUShares 2, .addLinuxHugepageLimit (str "2M") 1]),
        (str "20-b", [AOp.addEnv (str "Y") (str "b"), .setLinuxCPUQuota 3, .addLinuxHugepageLimit (str "1G") 1])] :
        List (Plugin × List AOp)).flatMap fun x => progSets x.2).Nodup) ∧
    (absRun (.update (str "c0")) []
      ([(str "10-a", ({ updates := [[.setContainerId (str "c1"), .setLinuxMemoryLimit 1]] } : PluginProg)),
        (str "20-b", { updates := [[.setContainerId (str "c1"), .setLinuxMemorySwap 1],
                                   [.setContainerId (str "c0"), .setLinuxMemoryLimit 7]] })].map
        fun x => (x.1, x.2.response))).isSome = true := by decide +kernel

/-! ## C05 at program level -/

/-- **Frame of one resource helper.** `SetLinuxFoo(v)` (on either receiver) writes its own field —
    `fieldVal` reads the value given — and every other scalar and unified key reads as the
    earlier program left it; hugepage limits change only by `AddLinuxHugepageLimit`, by one
    appended entry. -/
theorem builder_frame_resources (r : Resources) (rop : ROp) :
    fieldVal rop.item (stepR r rop) = rop.fval ∧
    (∀ it, it ≠ rop.item → fieldVal it (stepR r rop) = fieldVal it r) ∧
    (stepR r rop).hugepages = r.hugepages ++
      (match rop with | .hugepage s v => [{ pageSize := s, limit := v }] | _ => []) :=
  ⟨stepR_writes r rop, fun it h => stepR_frame r rop it h, stepR_hugepages r rop⟩

/-- the rest of the adjustment is untouched by a resource helper (only the linux section is
    allocated), and the rest of the update by any resource helper -/
theorem builder_frame_message (a : Adjustment) (u : Update) (rop : ROp) :
    stepA a (.res rop) = { a with hasLinux := true, resources := some (stepR (a.resources.getD {}) rop) } ∧
    stepU u (.res rop) = { u with resources := some (stepR (u.resources.getD {}) rop) } := ⟨rfl, rfl⟩

example :
    fieldVal .cpuQuota (stepR { cpu := some { shares := some 3 } } (.cpuQuota 7)) = .int (some 7) ∧
    fieldVal .cpuShares (stepR { cpu := some { shares := some 3 } } (.cpuQuota 7)) = .nat (some 3) ∧
    fieldVal .cpuPeriod (stepR { cpu := some { shares := some 3 } } (.cpuQuota 7)) = .nat none ∧
    -- `SetLinuxCPUPeriod(int64)` stores `uint64(v)`
    fieldVal .cpuPeriod (stepR {} (.cpuPeriod (-1))) = .nat (some 18446744073709551615) := by decide +kernel

/-- **Values of an update program.** Every scalar / unified key the reading `progValsU` lists reads
    back from the message with the program's (last) value. -/
theorem builder_update_vals (prog : List UOp) (it : Item) (v : Val) (h : (it, v) ∈ progValsU prog)
    (hh : isHugepage it = false) : fieldVal it ((runU prog).resources.getD {}) = fvalOf it v :=
  List.foldl_rel (r := fun (u : Update) acc => ValsOK (u.resources.getD {}) acc) (by intro it v h; cases h)
    (fun op _ u acc h => by
      cases op with
      | res r => exact stepR_vals _ r acc h
      | _ => exact h)
    it v h hh

/-- **Exactly the fields the program named.** One plugin answers any request with one update
    built by `prog` (naming no item twice); the request succeeds. Then the entry returned for the
    program's target carries, for every scalar and unified key: the program's value if the
    program named it (`progValsU`), otherwise the base value (the runtime's requested resources
    for the container being updated, unset otherwise) — and the base hugepage limits followed by
    the program's. -/
theorem builder_update_exact_fields (st0 st' : State) (req : Resources) (p : Plugin) (prog : List UOp)
    (hinit : (∃ id, st0 = initUpdate id req) ∨ st0 = initStop ∨ ∃ c0, st0 = initCreate c0)
    (hnd : (progSetsU prog).Nodup) (hres : (runU prog).resources.isSome = true)
    (h : run Quirks.fixed st0 (answeredAll [(p, { updates := [runU prog] })]) = .ok st')
    (e : Update) (he : some e ∈ replyUpdates st') (hid : e.containerId = progTarget prog) :
    ∃ res, e.resources = some res ∧
      (∀ it v, (it, v) ∈ progValsU prog → isHugepage it = false → fieldVal it res = fvalOf it v) ∧
      (∀ it, it ∉ progSetsU prog → fieldVal it res = fieldVal it (specBase st0.kind req (progTarget prog))) ∧
      res.hugepages = (specBase st0.kind req (progTarget prog)).hugepages ++ ((runU prog).resources.getD {}).hugepages := by
  have hx := C05.C05_exact_fields st0 st' req [(p, { updates := [runU prog] })] hinit h e he
  cases hr : (runU prog).resources with
  | none => rw [hr] at hres; cases hres
  | some r =>
    have hsets : setsUpd (runU prog) = resSets r := by rw [setsUpd_eq, hr]; rfl
    have hperm := runU_sets_perm prog
    rw [hsets] at hperm
    have hnd' : (resSets r).Nodup := hperm.nodup_iff.2 hnd
    -- The walk is one step from the empty state: nothing is taken yet, so every item of the update is
    -- free (`applies`), and the update is overlaid on the base of its target.
    have hwalk : (walk (specBase st0.kind req) [(p, { updates := [runU prog] })]).get (specBase st0.kind req) (progTarget prog)
        = overlayRes (specBase st0.kind req (progTarget prog)) r r.pids := by
      have hfree : freeOf {} (runU prog) = setsUpd (runU prog) :=
        (claimedPrefix_eq_self_iff _ _ []).2.2 ⟨hsets ▸ hnd', by intro it _ h; cases h⟩
      have happ : applies {} (runU prog) = true := by simp [applies, hr, hfree]
      show (simUpdate _ {} (runU prog)).get _ _ = _
      rw [simUpdate_get, if_pos ⟨happ, (runU_target prog).symm⟩, get_of_absent _ _ _ rfl]
      simp only [overlayUpd, hr]
    rw [hid, hwalk] at hx
    refine ⟨_, hx, ?_, ?_, ?_⟩
    · intro it v hm hh
      have hin : it ∈ resSets r := by
        have : it ∈ progSetsU prog := by
          rw [← progValsU_fst]; exact List.mem_map.2 ⟨(it, v), hm, rfl⟩
        exact hperm.mem_iff.2 this
      rw [overlay_field_set _ _ _ hnd' hin]
      have := builder_update_vals prog it v hm hh
      rw [hr] at this
      exact this
    · intro it hn
      have hnin : it ∉ resSets r := fun h => hn (hperm.mem_iff.1 h)
      exact overlay_field_keep _ _ _ hnin
    · simp [overlayRes]

-- the runtime asks for pids 5 and cpu shares 9 on c0; the plugin's program sets memory limit and
-- (twice) cpu quota on c0: the entry has the program's two fields, the request's others
example :
    (match run Quirks.fixed (initUpdate (str "c0") { pids := some 5, cpu := some { shares := some 9 } })
        (answeredAll [(str "10-a", { updates := [runU [.setContainerId (str "c0"), .setLinuxMemoryLimit 1,
            .setLinuxCPUQuota 2, .setLinuxCPUQuota 3]] })]) with
     | .ok st => (replyUpdates st).map fun e => e.map fun e =>
         (e.containerId, fieldVal .memLimit (e.resources.getD {}), fieldVal .cpuQuota (e.resources.getD {}),
          fieldVal .cpuShares (e.resources.getD {}), fieldVal .pids (e.resources.getD {}))
     | .error _ => []) = [some (str "c0", .int (some 1), .int (some 3), .nat (some 9), .int (some 5))] ∧
    progValsU [.setContainerId (str "c0"), .setLinuxMemoryLimit 1, .setLinuxCPUQuota 2, .setLinuxCPUQuota 3]
      = [(.memLimit, .int 1), (.cpuQuota, .int 3)] := by decide +kernel

/-- **Remove after Add of the same key = Remove before Add.** For environment variables, mounts,
    devices and annotations the collector does exactly the same — same clears, same claims, same
    reply and view — whether a program calls `AddX(k,…)` and then `RemoveX(k)` or the other way
    round: the set wins, and the earlier plugin's claim is released either way. This agrees with
    the note at the top of adjustment.go ("if both a deletion and an addition/setting was
    recorded for a key then the final desired state is the addition"). -/
theorem builder_remove_after_add_env (q : Quirks) (st : State) (p : Plugin) (pre : List AOp) (k v : Str)
    (hk : unmarked k = true) :
    adjust q st p (some (runA (pre ++ [.addEnv k v, .removeEnv k]))) =
    adjust q st p (some (runA (pre ++ [.removeEnv k, .addEnv k v]))) := by
  have h1 : (isMarked k).2 = false := by simpa [unmarked] using hk
  simp only [runA, List.foldl_append, List.foldl_cons, List.foldl_nil, stepA, List.append_assoc, List.cons_append,
    List.nil_append]
  generalize pre.foldl stepA {} = a
  exact adjust_env_swap q st p a { key := k, value := v } { key := markForRemoval k } h1 rfl

theorem builder_remove_after_add_mount (q : Quirks) (st : State) (p : Plugin) (pre : List AOp) (m : Mount)
    (hk : unmarked m.destination = true) :
    adjust q st p (some (runA (pre ++ [.addMount m, .removeMount m.destination]))) =
    adjust q st p (some (runA (pre ++ [.removeMount m.destination, .addMount m]))) := by
  have h1 : (isMarked m.destination).2 = false := by simpa [unmarked] using hk
  simp only [runA, List.foldl_append, List.foldl_cons, List.foldl_nil, stepA, List.append_assoc, List.cons_append,
    List.nil_append]
  generalize pre.foldl stepA {} = a
  exact adjust_mount_swap q st p a m { destination := markForRemoval m.destination } h1 rfl

theorem builder_remove_after_add_device (q : Quirks) (st : State) (p : Plugin) (pre : List AOp) (d : Device)
    (hk : unmarked d.path = true) :
    adjust q st p (some (runA (pre ++ [.addDevice d, .removeDevice d.path]))) =
    adjust q st p (some (runA (pre ++ [.removeDevice d.path, .addDevice d]))) := by
  have h1 : (isMarked d.path).2 = false := by simpa [unmarked] using hk
  simp only [runA, List.foldl_append, List.foldl_cons, List.foldl_nil, stepA, List.append_assoc, List.cons_append,
    List.nil_append]
  generalize pre.foldl stepA {} = a
  exact adjust_device_swap q st p a d { path := markForRemoval d.path } h1 rfl

-- 10-a: AddEnv X=a. 20-b: AddEnv X=b and THEN RemoveEnv X: accepted, and the reply carries X=b
-- (after the removal marker that takes 10-a's entry out), exactly as for the other order
example :
    (match run Quirks.fixed (initCreate { id := str "c0" })
      [(str "10-a", some (PluginProg.response { adjust := some [.addEnv (str "X") (str "a")] })),
       (str "20-b", some (PluginProg.response { adjust := some [.addEnv (str "X") (str "b"), .removeEnv (str "X")] }))] with
     | .ok st => (st.reply.env.map fun e => (e.key, e.value), st.view.env, st.owners.owner (str "c0") (.env (str "X")))
     | .error _ => ([], [], none)) = ([(str "X", str "b")], [str "X=b"], some (str "20-b")) := by decide +kernel

/-- **The command line is one field: the last call decides.** `UpdateArgs` followed by `SetArgs`
    leaves no replace marker (the plugin will conflict with an earlier setter); `SetArgs`
    followed by `UpdateArgs` leaves one. -/
theorem builder_args_last_call (pre : List AOp) (a b : List Str) :
    (runA (pre ++ [.updateArgs a, .setArgs b])).args = b ∧
    (runA (pre ++ [.setArgs a, .updateArgs b])).args = [] :: b := by
  simp [runA, List.foldl_append, stepA]

example :
    progClears [.updateArgs [str "x"], .setArgs [str "y"]] = [] ∧
    progSets [.updateArgs [str "x"], .setArgs [str "y"]] = [.args] ∧
    progClears [.setArgs [str "y"], .updateArgs [str "x"]] = [.args] := by decide +kernel

/-- **Hooks.** The message carries every hook the program's `AddHooks` calls were given, kind by
    kind in call order (hooks are not owned: the collector appends every plugin's). -/
theorem builder_hooks (prog : List AOp) : (runA prog).hooks.getD {} = progHooks prog :=
  List.foldl_rel (r := fun (a : Adjustment) acc => a.hooks.getD {} = acc) rfl fun op _ a _ h => by subst h; cases op <;> rfl

example :
    progHooks [.addHooks { prestart := [{ path := str "/a" }] }, .addEnv (str "X") [],
               .addHooks { prestart := [{ path := str "/b" }], poststop := [{ path := str "/c" }] }]
      = { prestart := [{ path := str "/a" }, { path := str "/b" }], poststop := [{ path := str "/c" }] } := by decide +kernel

/-- `AddHooks(nil)`: the handler does not return (nil pointer dereference in adjustment.go:99) -/
theorem builder_addHooks_nil_faults (pre : List AOp) (post : List ACall) :
    runCalls (pre.map .op ++ .addHooksNil :: post) = none := by
  induction pre with
  | nil => rfl
  | cons o rest ih => simp only [List.map_cons, List.cons_append, runCalls, ih, Option.map_none]

example : runCalls [.op (.addEnv (str "X") []), .addHooksNil] = none ∧
    runCalls [.op (.addEnv (str "X") []), .op (.addHooks {})] = some [.addEnv (str "X") [], .addHooks {}] := by decide +kernel

end Nri.Props.Builder
