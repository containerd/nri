import NriModel.Lemmas.ResultAbs
/-!
# C02 — plugins touching disjoint items, or removing before setting, never conflict

Same model and vocabulary as C01. `C02_blame`: nobody is blamed for a field it did not set, and
nothing the original container or the runtime's own update request carries can be blamed on a
plugin (the ledger starts empty and grows only by what responses set). `C02_release_*`: marking an
item for removal releases the earlier claim. `C02_disjoint`: whenever the abstract ledger
(`Ledger.absRun`: a bare set of owned (container, item) pairs; a response releases what it marks
for removal, must find what it sets free, then owns it) accepts a chain, the model's request loop
succeeds, from the fresh state of any request. The proof carries the agreement between the ledger
and the reply lists of the keyed families (`ReplyHolds`), which is what makes a removal marker
effective.
-/
namespace Nri.Props.C02
open Nri Nri.NApi Nri.Result Nri.Ledger

/-- every owner of the ledger is a plugin of `done` whose response set that item -/
def OwnedFrom (k : Kind) (done : List (Plugin × Option Response)) (o : Owners) : Prop :=
  ∀ c it w, o.owner c it = some w → ∃ r, (w, some r) ∈ done ∧ it ∈ setsOn false k r c

theorem ownedFrom_nil (k : Kind) (done) : OwnedFrom k done [] := by
  intro c it w h; cases h

theorem run_blame_aux (rs : List (Plugin × Option Response)) :
    ∀ (st : State) (done : List (Plugin × Option Response)),
      OwnedFrom st.kind done st.owners →
      ∀ c it p q, run Quirks.fixed st rs = .error (.conflict c it p q) →
        (∃ r, (p, some r) ∈ rs ∧ it ∈ setsOn false st.kind r c) ∧
        (∃ r, (q, some r) ∈ done ++ rs ∧ it ∈ setsOn false st.kind r c) := by
  induction rs with
  | nil => intro st done _ c it p q h; cases h
  | cons x rest ih =>
    intro st done hinv c it p q h
    obtain ⟨px, _ | rx⟩ := x
    · obtain ⟨⟨r, hm, hs⟩, ⟨r', hm', hs'⟩⟩ := ih st done hinv c it p q h
      exact ⟨⟨r, List.mem_cons_of_mem _ hm, hs⟩, r',
        List.mem_append.2 ((List.mem_append.1 hm').imp_right (List.mem_cons_of_mem _)), hs'⟩
    · have hl := apply_ledgered st px rx
      rw [run_cons_some] at h
      cases h1 : apply Quirks.fixed st px rx with
      | error e =>
        rw [h1] at h; cases h
        obtain ⟨rfl, hs, hw⟩ := hl.blame c it p q h1
        refine ⟨⟨rx, List.mem_cons_self, hs⟩, ?_⟩
        rcases hw with hw | rfl
        · obtain ⟨r, hm, hs'⟩ := hinv c it q hw
          exact ⟨r, List.mem_append_left _ hm, hs'⟩
        · exact ⟨rx, List.mem_append_right _ List.mem_cons_self, hs⟩
      | ok st1 =>
        rw [h1] at h
        have hk := apply_kind _ st st1 px rx h1
        have hinv1 : OwnedFrom st1.kind (done ++ [(px, some rx)]) st1.owners := by
          intro c' it' w' ho
          rw [hk]
          rcases hl.inv st1 h1 c' it' w' ho with h2 | ⟨rfl, hs⟩
          · obtain ⟨r, hm, hs⟩ := hinv c' it' w' h2
            exact ⟨r, List.mem_append_left _ hm, hs⟩
          · exact ⟨rx, List.mem_append_right _ List.mem_cons_self, hs⟩
        obtain ⟨⟨r, hm, hs⟩, ⟨r', hm', hs'⟩⟩ := ih st1 _ hinv1 c it p q h
        rw [hk] at hs hs'
        exact ⟨⟨r, List.mem_cons_of_mem _ hm, hs⟩, r', by simpa [List.append_assoc] using hm', hs'⟩

/-- **C02 (blame).** From the fresh ledger of any creation, update or stop request: if the
    request fails with "plugins p and q both tried to set `it`" on container `c`, then `p`'s
    response in this request set `it` on `c`, and so did `q`'s. The original container and the
    runtime's own update request are not mentioned in the conclusion: they cannot cause or
    attract a conflict. -/
theorem C02_blame (st : State) (hfresh : st.owners = []) (rs : List (Plugin × Option Response))
    (c : Cid) (it : Item) (p q : Plugin)
    (h : run Quirks.fixed st rs = .error (.conflict c it p q)) :
    (∃ r, (p, some r) ∈ rs ∧ it ∈ setsOn false st.kind r c) ∧
    (∃ r, (q, some r) ∈ rs ∧ it ∈ setsOn false st.kind r c) := by
  have := run_blame_aux rs st [] (by rw [hfresh]; exact ownedFrom_nil _ _) c it p q h
  simpa using this

/-- **C02 (release, unconditional families).** An annotation or the command line marked for
    removal by a response that is processed successfully is afterwards owned, if at all, by
    the removing plugin through its own re-setting of it: any earlier plugin's claim is gone. -/
theorem C02_release_unconditional (st st' : State) (p : Plugin) (a : Adjustment) (id : Cid)
    (hk : st.kind = .create id) (it : Item)
    (hfam : (∃ k, it = .annotation k) ∨ it = .args)
    (hrm : it ∈ removesAdj a)
    (h : adjust Quirks.fixed st p (some a) = .ok st') (w : Plugin)
    (ho : st'.owners.owner id it = some w) : w = p ∧ it ∈ adjustSets a := by
  rw [show id = cidOf st.kind by rw [hk]; rfl] at ho
  refine adjust_releases st st' p a it hrm ?_ h w ho
  rcases hfam with ⟨k, rfl⟩ | rfl <;> trivial

/-- **C02 (release, list families).** For mounts, devices and environment variables the owner
    is cleared when the reply collected so far holds the removed entry — which is where every
    claim of these families puts one. Stated with that premise explicit. -/
theorem C02_release_listed (st st' : State) (p : Plugin) (a : Adjustment) (id : Cid)
    (hk : st.kind = .create id) (d : Str)
    (hrm : Item.mount d ∈ removesAdj a)
    (hin : ∃ m ∈ st.reply.mounts, m.destination = d)
    (h : adjust Quirks.fixed st p (some a) = .ok st') (w : Plugin)
    (ho : st'.owners.owner id (.mount d) = some w) : w = p ∧ Item.mount d ∈ adjustSets a := by
  rw [show id = cidOf st.kind by rw [hk]; rfl] at ho
  exact adjust_releases st st' p a _ hrm hin h w ho

/-- the same for environment variables -/
theorem C02_release_listed_env (st st' : State) (p : Plugin) (a : Adjustment) (id : Cid)
    (hk : st.kind = .create id) (n : Str)
    (hrm : Item.env n ∈ removesAdj a)
    (hin : ∃ e ∈ st.reply.env, e.key = n)
    (h : adjust Quirks.fixed st p (some a) = .ok st') (w : Plugin)
    (ho : st'.owners.owner id (.env n) = some w) : w = p ∧ Item.env n ∈ adjustSets a := by
  rw [show id = cidOf st.kind by rw [hk]; rfl] at ho
  exact adjust_releases st st' p a _ hrm hin h w ho

/-- … and for devices (only read when the adjustment has a `linux` section, as in the code) -/
theorem C02_release_listed_device (st st' : State) (p : Plugin) (a : Adjustment) (id : Cid)
    (hk : st.kind = .create id) (d : Str)
    (hrm : Item.device d ∈ removesAdj a)
    (hin : ∃ x ∈ st.reply.devices, x.path = d)
    (h : adjust Quirks.fixed st p (some a) = .ok st') (w : Plugin)
    (ho : st'.owners.owner id (.device d) = some w) : w = p ∧ Item.device d ∈ adjustSets a := by
  rw [show id = cidOf st.kind by rw [hk]; rfl] at ho
  exact adjust_releases st st' p a _ hrm hin h w ho

/-- **C02 (disjoint writers, per step).** A response whose adjustment names no item twice and
    sets only items that are unowned once its removals are applied is accepted. -/
theorem C02_disjoint_partial (st : State) (p : Plugin) (a : Adjustment)
    (hnd : (adjustSets a).Nodup)
    (hfree : ∀ it ∈ adjustSets a,
       st.owners.owner (cidOf st.kind) it = none ∨ it ∈ adjustClears Quirks.fixed st a) :
    ∃ st', adjust Quirks.fixed st p (some a) = .ok st' :=
  adjust_ok_of _ st p a hnd hfree

/-- **C02 (disjoint writers never conflict).** From the fresh ledger of any request: if the
    abstract ledger accepts the chain — no response updates the container being created, none
    names an item twice, and every item a response sets is, once that response's own removal
    marks are applied, not owned by an earlier response — then the request succeeds. -/
theorem C02_disjoint (st : State) (hfresh : st.owners = []) (rs : List (Plugin × Response))
    (owned' : List (Cid × Item)) (h : absRun st.kind [] rs = some owned') :
    ∃ st', run Quirks.fixed st (answeredAll rs) = .ok st' := by
  obtain ⟨st', hr, _, _⟩ := run_abs rs st [] owned' (replyHolds_fresh st hfresh) (absRel_fresh st [] hfresh) h
  exact ⟨st', hr⟩

/-- the three request kinds, for every original container / requested resources -/
theorem C02_disjoint_create (c0 : Container) (rs) (o) (h : absRun (.create c0.id) [] rs = some o) :
    ∃ st', run Quirks.fixed (initCreate c0) (answeredAll rs) = .ok st' := C02_disjoint (initCreate c0) rfl rs o h
theorem C02_disjoint_update (id : Cid) (req : Resources) (rs) (o) (h : absRun (.update id) [] rs = some o) :
    ∃ st', run Quirks.fixed (initUpdate id req) (answeredAll rs) = .ok st' := C02_disjoint (initUpdate id req) rfl rs o h
theorem C02_disjoint_stop (rs) (o) (h : absRun .stop [] rs = some o) :
    ∃ st', run Quirks.fixed initStop (answeredAll rs) = .ok st' := C02_disjoint initStop rfl rs o h

/-! ### the hypotheses are satisfiable -/

-- the abstract ledger accepts: p0 sets mount /m and env E, p1 removes /m, p2 sets /m again and E's sibling
example : (absRun (.create (str "c0")) []
    [(str "10-a", { adjust := some { mounts := [{ destination := str "/m" }], env := [{ key := str "E" }] } }),
     (str "20-b", { adjust := some { mounts := [{ destination := str "-/m" }] } }),
     (str "30-c", { adjust := some { mounts := [{ destination := str "/m" }], env := [{ key := str "F" }] } })]).isSome = true := by
  decide

-- … and rejects the same chain without the middle removal
example : (absRun (.create (str "c0")) []
    [(str "10-a", { adjust := some { mounts := [{ destination := str "/m" }] } }),
     (str "30-c", { adjust := some { mounts := [{ destination := str "/m" }] } })]).isSome = false := by
  decide


private def isErr : Except Err State → Bool | .error _ => true | .ok _ => false
private def errIs (c : Str) (it : Item) (p q : Str) : Except Err State → Bool
  | .error (.conflict c' it' p' q') => c' = c && it' = it && p' = p && q' = q
  | _ => false

-- a blamed pair: both set cpu shares of the same third-party container
example : errIs (str "ctrA") .cpuShares (str "30-c") (str "10-a")
    (run Quirks.fixed (initUpdate (str "c0") { pids := some 5, cpu := some { shares := some 9 } })
      [(str "10-a", some { updates := [{ containerId := str "ctrA", resources := some { cpu := some { shares := some 1 } } }] }),
       (str "20-b", some { updates := [{ containerId := str "ctrA", resources := some { memory := some { limit := some 1 } } }] }),
       (str "30-c", some { updates := [{ containerId := str "ctrA", resources := some { cpu := some { shares := some 2 } } }] })]) = true := by
  decide

-- pre-populated request, every plugin touching a different field: success (the pids case, `Quirks.pidsFromCopy`)
example : isErr
    (run Quirks.fixed (initUpdate (str "c0") { pids := some 5, cpu := some { shares := some 9 } })
      [(str "10-a", some { updates := [{ containerId := str "c0", resources := some { memory := some { limit := some 1 } } }] }),
       (str "20-b", some { updates := [{ containerId := str "c0", resources := some { cpu := some { quota := some 2 } } }] })]) = false := by
  decide

-- lone removal by a middle plugin releases the claim (`Quirks.annLoneKeeps`): p0 sets k, p1 removes k, p2 sets k
example : isErr
    (run Quirks.fixed (initCreate { id := str "c0" })
      [(str "10-a", some { adjust := some { annotations := [(str "k", str "v0")] } }),
       (str "20-b", some { adjust := some { annotations := [(str "-k", [])] } }),
       (str "30-c", some { adjust := some { annotations := [(str "k", str "v2")] } })]) = false := by
  decide

-- … and the code before that repair raised a conflict on exactly that chain
example : isErr
    (run Quirks.unfixed (initCreate { id := str "c0" })
      [(str "10-a", some { adjust := some { annotations := [(str "k", str "v0")] } }),
       (str "20-b", some { adjust := some { annotations := [(str "-k", [])] } }),
       (str "30-c", some { adjust := some { annotations := [(str "k", str "v2")] } })]) = true := by
  decide

end Nri.Props.C02
