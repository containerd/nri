import NriModel.Lemmas.ResultView
import NriModel.Lemmas.ResultWalkRel
import NriModel.Lemmas.ComposeViewChain
/-!
# C04 — each plugin sees the container exactly as the earlier plugins left it

Model `Nri.Result`; specification `Nri.Overlay.overlayContainer` (the NRI-level reading of an
adjustment: entries whose key is removed or set again go, the set entries are appended;
scalars given replace, scalars not given stay).

`viewsAlong` lists the states in which the plugins of a chain are called, i.e. what each is
shown. Proved for every original container, every chain and every position:
the first plugin is shown the runtime's original (`C04_first_create`, `C04_first_update`);
plugin *i* is shown the original overlaid with the adjustments of plugins 0 … i−1 in order
(`C04_create`); in update requests the resources shown change only by applied updates of the
container being updated (`C04_update_step`), and plugin *i* is shown exactly what the
state-free specification walk (`Nri.UpdateWalk.walk`, the value the correspondence run's
`specC04` evaluates) yields for the updated container over the plugins before it
(`C04_update`; no hypothesis on the chain).

**The last sentence of the property** — "what a plugin is shown therefore always agrees with
what the runtime would obtain by applying the result combined so far" — is `C04_view_agrees`:
for every original container, every chain and every position `i`, the container shown to plugin
`i` `ViewAgrees` with the OCI spec that `Generator.Adjust` (model `Nri.Generate`, property C13)
makes of the original spec `toSpec c0` with the reply combined so far (`s.reply` of the state in
which plugin `i` is called), whenever the generator accepts that reply — and it does whenever it
accepts the earlier plugins' adjustments one after another.  Proof: the per-adjustment
simulation `C04_overlay_simulates` (the NRI-level overlay of one adjustment on the view
simulates `Generator.Adjust` with that adjustment on the spec; `C04_overlay_agrees` is its
instance from a container's own spec), carried along the chain with the ledger's facts about
each accepted adjustment (no key set twice; hugepage sizes new), and C03 (`compose_main` /
`compose_converse`: generator on the combined reply ≈ generator on each adjustment in turn)
applied to the PREFIX of the chain.

`ViewAgrees` is documented where it is defined (`Lemmas/ComposeView.lean`); each of its two
weakenings (environment as a finite map, mounts up to order), each field it leaves out and each
guard beyond C03's `WellFormed`/`SpecWF` has a witness at the end of this file.
-/
namespace Nri.Props.C04
open Nri Nri.NApi Nri.Result Nri.Ledger Nri.Overlay Nri.UpdateWalk

def adjOf : Plugin × Option Response → Option Adjustment
  | (_, some r) => r.adjust
  | (_, none) => none

/-- **First plugin, creation.** The first plugin is shown the container the runtime
    submitted (nil sections normalised to empty ones, which protobuf does not distinguish). -/
theorem C04_first_create (c0 : Container) (x) (rest) :
    ((viewsAlong Quirks.fixed (initCreate c0) (x :: rest)).head?.map (·.view)) =
      some { c0 with resources := normRes c0.resources } := by
  rw [Compose.viewsAlong_head]; rfl

/-- **First plugin, update.** The first plugin is shown the resources the runtime asked for. -/
theorem C04_first_update (id : Cid) (req : Resources) (x) (rest) :
    ((viewsAlong Quirks.fixed (initUpdate id req) (x :: rest)).head?.map (·.reqRes)) = some (normRes req) := by
  rw [Compose.viewsAlong_head]; rfl

/-- **Every position, creation.** The state in which the `i`-th plugin of a chain is called
    shows the starting view overlaid, in order, with the adjustments of the plugins before it. -/
theorem C04_create (rs : List (Plugin × Option Response)) :
    ∀ (st : State) (id : Cid), st.kind = .create id →
    ∀ (i : Nat) (s : State), (viewsAlong Quirks.fixed st rs)[i]? = some s →
      s.view = overlayAll st.view ((rs.take i).map adjOf) :=
  fun st _ hk i s h => Compose.run_view (rs.take i) hk (viewsAlong_run _ rs st i s h)

/-- **C04 for a whole creation request**: from the collector's initial state. -/
theorem C04_create_request (c0 : Container) (rs : List (Plugin × Option Response)) (i : Nat) (s : State)
    (h : (viewsAlong Quirks.fixed (initCreate c0) rs)[i]? = some s) :
    s.view = overlayAll { c0 with resources := normRes c0.resources } ((rs.take i).map adjOf) :=
  C04_create rs (initCreate c0) c0.id rfl i s h

/-- **Update requests, per applied update.** The resources shown to later plugins change
    exactly when an update of the container being updated is applied, and then to the
    previous ones overlaid with that update. -/
theorem C04_update_step (st st1 : State) (p : Plugin) (u : Update) (r : Resources) (id : Cid)
    (hk : st.kind = .update id) (hu : u.resources = some r)
    (hg : getUpdate Quirks.fixed st p u = .ok st1) (o : Owners)
    (hc : claimAllPartial u.containerId p st1.owners (updSets Quirks.fixed st1 u) = (o, none)) :
    ∃ st', update1 Quirks.fixed st p u = .ok st' ∧
      st'.reqRes = (if u.containerId = id then overlayRes st.reqRes r r.pids else st.reqRes) := by
  refine ⟨{ updData Quirks.fixed st1 u with owners := o }, by simp only [update1, hg, hc], ?_⟩
  rw [getUpdate_frame _ st st1 p u hg]
  simp only [updData, hu, setEntryRes, updBase, isOwn, hk, updPids, Quirks.fixed]
  by_cases hid : u.containerId = id
  · simp [hid]
  · simp [hid, Ne.symm hid]

/-- **Every position, chains with unsubscribed or dropped plugins.** Position `i` of a chain in
    which some plugins do not answer: the walk runs over the plugins before `i` that did. -/
theorem C04_update_dropped (id : Cid) (req : Resources) (rs : List (Plugin × Option Response)) (i : Nat)
    (s : State)
    (h : (viewsAlong Quirks.fixed (initUpdate id req) rs)[i]? = some s) :
    s.reqRes = (walk (specBase (.update id) req) (answered (rs.take i))).get (specBase (.update id) req) id := by
  have hrun := viewsAlong_run _ _ _ i s h
  rw [run_answered] at hrun
  obtain ⟨rel, _⟩ := run_rel (baseOf (initUpdate id req)) (answered (rs.take i)) (initUpdate id req) s {}
    (rel_fresh _ rfl rfl) (entOK_fresh _ rfl rfl) hrun
  rw [← walk_eq, baseOf_initUpdate] at rel
  rw [rel.vals id]
  have hk : s.kind = .update id := run_kind _ _ s _ hrun
  unfold updBase
  simp [hk, isOwn]

/-- **Every position, update requests.** The state in which the `i`-th plugin of an update
    request of `id` is called shows, as the requested resources, what the specification walk
    over the update lists of plugins `0 … i−1` yields for `id`, from the base `normRes req` for
    `id` (and `normRes {}` for every other container): the requested resources overlaid, in
    order, with exactly the earlier updates of `id` that were applied; an ignore-failure update
    that hit a taken field contributes nothing. Structural equality of `Resources`. -/
theorem C04_update (id : Cid) (req : Resources) (rs : List (Plugin × Response)) (i : Nat) (s : State)
    (h : (viewsAlong Quirks.fixed (initUpdate id req) (answeredAll rs))[i]? = some s) :
    s.reqRes = (walk (specBase (.update id) req) (rs.take i)).get (specBase (.update id) req) id := by
  have := C04_update_dropped id req (answeredAll rs) i s h
  rwa [answeredAll_take, answered_answeredAll] at this

-- the chain of the examples below: an update request of c0 (requested pids 5), four plugins.
-- 10-a sets the memory limit of c0; 20-b's ignore-failure update of c0 names the memory limit
-- (taken) and cpu shares: dropped in its entirety; 30-c sets cpu quota of c0; 40-d sends nothing.
private def updOf (id : Str) (r : Resources) (ign : Bool := false) : Update :=
  { containerId := id, resources := some r, ignoreFailure := ign }

private def chain4 : List (Plugin × Response) :=
  [(str "10-a", { updates := [updOf (str "ctrA") { pids := some 1 }, updOf (str "c0") { memory := some { limit := some 3 } }] }),
   (str "20-b", { updates := [updOf (str "c0") { memory := some { limit := some 8 }, cpu := some { shares := some 9 } } true] }),
   (str "30-c", { updates := [updOf (str "c0") { cpu := some { quota := some 4 } }] }),
   (str "40-d", { })]

-- 40-d, the fourth plugin, is shown limit 3 / quota 4 / pids 5 and no cpu shares: the walk over
-- the first three plugins
example :
    ((viewsAlong Quirks.fixed (initUpdate (str "c0") { pids := some 5 }) (answeredAll chain4))[3]?.map fun s =>
      (decide (s.reqRes = (walk (specBase (.update (str "c0")) { pids := some 5 }) (chain4.take 3)).get
                 (specBase (.update (str "c0")) { pids := some 5 }) (str "c0")),
       (s.reqRes.memory.getD {}).limit, (s.reqRes.cpu.getD {}).shares, (s.reqRes.cpu.getD {}).quota, s.reqRes.pids))
    = some (true, some 3, none, some 4, some 5) := by decide +kernel

/-- **C04 for a whole update request**: every position of the chain, from the collector's
    initial state. -/
theorem C04_update_request (id : Cid) (req : Resources) (rs : List (Plugin × Response)) :
    ∀ (i : Nat) (s : State),
      (viewsAlong Quirks.fixed (initUpdate id req) (answeredAll rs))[i]? = some s →
      s.reqRes = (walk (specBase (.update id) req) (rs.take i)).get (specBase (.update id) req) id :=
  fun i s h => C04_update id req rs i s h

-- 30-c, the third plugin, is shown limit 3 and pids 5, neither the dropped limit 8 nor cpu shares
example :
    ((viewsAlong Quirks.fixed (initUpdate (str "c0") { pids := some 5 }) (answeredAll chain4))[2]?.map fun s =>
      (decide (s.reqRes = (walk (specBase (.update (str "c0")) { pids := some 5 }) (chain4.take 2)).get
                 (specBase (.update (str "c0")) { pids := some 5 }) (str "c0")),
       (s.reqRes.memory.getD {}).limit, (s.reqRes.cpu.getD {}).shares, (s.reqRes.cpu.getD {}).quota, s.reqRes.pids))
    = some (true, some 3, none, none, some 5) := by decide +kernel

-- chain4 with an unsubscribed plugin after the first: position 4 is 40-d again
example :
    let rs : List (Plugin × Option Response) :=
      (answeredAll (chain4.take 1)) ++ (str "15-x", none) :: answeredAll (chain4.drop 1)
    (answered (rs.take 4)).map (fun x => (x.1, x.2.updates)) = (chain4.take 3).map (fun x => (x.1, x.2.updates)) ∧
    ((viewsAlong Quirks.fixed (initUpdate (str "c0") { pids := some 5 }) rs)[4]?.map fun s =>
      (decide (s.reqRes = (walk (specBase (.update (str "c0")) { pids := some 5 }) (answered (rs.take 4))).get
                 (specBase (.update (str "c0")) { pids := some 5 }) (str "c0")),
       (s.reqRes.memory.getD {}).limit, (s.reqRes.cpu.getD {}).shares, (s.reqRes.cpu.getD {}).quota, s.reqRes.pids))
    = some (true, some 3, none, some 4, some 5) := by decide +kernel

-- third plugin of a chain: sees p0's annotation removed by p1 and p1's mount
example :
    ((viewsAlong Quirks.fixed (initCreate { id := str "c0", annotations := [(str "orig", str "x")] })
      [(str "10-a", some { adjust := some { annotations := [(str "k", str "v")] } }),
       (str "20-b", some { adjust := some { annotations := [(str "-k", [])], mounts := [{ destination := str "/m" }] } }),
       (str "30-c", some { })])[2]?.map fun s => (s.view.annotations, s.view.mounts.map (·.destination)))
    = some ([(str "orig", str "x")], [str "/m"]) := by decide +kernel


open Nri.Compose

/-- **One adjustment: the NRI-level overlay simulates the generator.**  If the container `c`
    a plugin was shown simulates the spec `x` (`ViewSim` = `ViewAgrees` + what keeps it going),
    `a` is well-formed, requests no memory limit 0, sets no key twice and only hugepage sizes
    `c` does not have (`StepFresh`; guaranteed by the ledger for every accepted adjustment),
    then what the NEXT plugin is shown, `overlayContainer c a`, simulates
    `Generator.Adjust x (toGen a)`. -/
theorem C04_overlay_simulates {ext : Generate.Externals} {bad : List Str}
    (hi : ext.injectCDI = some (Generate.recordingInjector bad) ∨ ext.injectCDI = none)
    (c : Container) (x x' : Oci.Spec) (a : Adjustment)
    (hsim : ViewSim c x) (hwf : WellFormed a) (hz : limitNonzero a = true) (hf : StepFresh c a)
    (h : Generate.adjust ext x (toGen a) = .ok x') :
    ViewSim (overlayContainer c a) x' :=
  viewSim_step hi c x x' a hsim hwf hz hf h

/-- the instance from a container's own spec: `toSpec`-then-generate agrees with
    overlay-then-`toSpec`, in the sense of `ViewAgrees` -/
theorem C04_overlay_agrees {ext : Generate.Externals} {bad : List Str}
    (hi : ext.injectCDI = some (Generate.recordingInjector bad) ∨ ext.injectCDI = none)
    (c : Container) (hc : SpecWF (toSpec c)) (a : Adjustment)
    (hwf : WellFormed a) (hz : limitNonzero a = true) (hf : StepFresh c a) (x' : Oci.Spec)
    (h : Generate.adjust ext (toSpec c) (toGen a) = .ok x') :
    ViewAgrees (overlayContainer c a) x' :=
  (viewSim_step hi c (toSpec c) x' a (viewSim_self c hc) hwf hz hf h).toViewAgrees

/-- **C04, last sentence.** For every original container `c0` (with a well-formed spec), every
    chain `rs` whose adjustments satisfy `ViewGuard c0`, every position `i`: let `s` be the
    state in which plugin `i` is called — `s.view` what it is shown, `s.reply` the result
    combined so far.  (1) Whatever spec `sC` the generator makes of the original spec with
    `s.reply`, the view agrees with it; (2) the generator does accept `s.reply` whenever it
    accepts the adjustments of plugins `0 … i−1` one after another. -/
theorem C04_view_agrees {ext : Generate.Externals} {bad : List Str}
    (hi : ext.injectCDI = some (Generate.recordingInjector bad) ∨ ext.injectCDI = none)
    (c0 : Container) (rs : List (Plugin × Option Response)) (hs0 : SpecWF (toSpec c0))
    (hg : ∀ a ∈ adjsOf rs, ViewGuard c0 a) (i : Nat) (s : State)
    (h : (viewsAlong Quirks.fixed (initCreate c0) rs)[i]? = some s) :
    (∀ sC, Generate.adjust ext (toSpec c0) (toGen s.reply) = .ok sC → ViewAgrees s.view sC) ∧
    ((∃ sS, seqAdjust ext (toSpec c0) ((adjsOf (rs.take i)).map toGen) = .ok sS) →
      ∃ sC, Generate.adjust ext (toSpec c0) (toGen s.reply) = .ok sC) := by
  have hrun := viewsAlong_run _ _ _ i s h
  have hg' : ∀ a ∈ adjsOf (rs.take i), ViewGuard c0 a := fun a ha => hg a (mem_adjsOf_take rs i a ha)
  obtain ⟨hrep, hc⟩ := run_chain c0 (rs.take i) s hrun (fun a ha => wellFormed_core a (hg' a ha).wf)
  have hnp : ∀ a ∈ adjsOf (rs.take i), a.mounts.all noPropagation = true :=
    fun a ha => wellFormed_noProp a (hg' a ha).wf
  rw [hrep]
  constructor
  · intro sC hC
    obtain ⟨sS, hS⟩ := compose_converse hi _ hc hnp (toSpec c0) sC hs0 hC
    obtain ⟨sC', hC', heq⟩ := compose_main hi _ hc hnp (toSpec c0) sS hs0 hS
    cases hC.symm.trans hC'
    -- the initial view is `c0` with nil resource sections normalised, which `toSpec` does not see;
    -- every hugepage size it shows is the original's (`HugeHeld`, first alternative)
    have hsim := run_viewSim hi c0 (rs.take i) (initCreate c0) s (toSpec c0) sS c0.id rfl
      (viewSim_self (initCreate c0).view hs0) (fun _ hz => .inl hz) hg' hrun hS
    exact viewAgrees_of_specEq s.view sC sS hsim.toViewAgrees heq
  · rintro ⟨sS, hS⟩
    obtain ⟨sC, hC, _⟩ := compose_main hi _ hc hnp (toSpec c0) sS hs0 hS
    exact ⟨sC, hC⟩

/-- without external functions (no CDI injector, no class resolvers) the generator accepts
    every combined reply of a guarded chain, so the agreement is unconditional -/
theorem C04_view_agrees_plain (c0 : Container) (rs : List (Plugin × Option Response))
    (hs0 : SpecWF (toSpec c0)) (hg : ∀ a ∈ adjsOf rs, ViewGuard c0 a) (i : Nat) (s : State)
    (h : (viewsAlong Quirks.fixed (initCreate c0) rs)[i]? = some s) :
    ∃ sC, Generate.adjust {} (toSpec c0) (toGen s.reply) = .ok sC ∧ ViewAgrees s.view sC := by
  obtain ⟨h1, h2⟩ := C04_view_agrees (ext := {}) (bad := []) (.inr rfl) c0 rs hs0 hg i s h
  obtain ⟨sC, hC⟩ := h2 (seqAdjust_plain _
    (fun a ha => wellFormed_noProp a (hg a (mem_adjsOf_take rs i a ha)).wf) _ (specWF_parts _ hs0).1)
  exact ⟨sC, hC, h1 sC hC⟩

/-! ### non-vacuity: a five-entry chain (one plugin not subscribed) touching every family -/

def vC0 : Container :=
  { id := str "c0"
    annotations := [(str "keep", str "1"), (str "drop", str "2")]
    args := [str "sh"]
    env := [str "PATH=/bin", str "OLD=1"]
    mounts := [{ destination := str "/b" }, { destination := str "/a" }]
    devices := [{ path := str "/dev/null", type := str "c", major := 1, minor := 3 }]
    rlimits := [{ type := str "RLIMIT_NOFILE", hard := 10, soft := 5 }]
    resources := { hugepages := [{ pageSize := str "2MB", limit := 1 }], unified := [(str "u0", str "x")] } }

def vA0 : Adjustment :=
  { annotations := [(str "k0", str "v0"), (str "-drop", [])]
    mounts := [{ destination := str "/m0" }, { destination := str "-/a" }]
    env := [{ key := str "FOO", value := str "1" }, { key := str "-OLD" }]
    hooks := some { prestart := [{ path := str "/bin/h0" }] }
    hasLinux := true
    devices := [{ path := str "/dev/x", type := str "c", major := 1, minor := 2 }]
    resources := some { memory := some { limit := some 100 }, cpu := some { shares := some 5 },
                        hugepages := [{ pageSize := str "1GB", limit := 4 }],
                        unified := [(str "u", str "1")], pids := some 7 }
    cgroupsPath := str "/cg0"
    oomScoreAdj := some 5
    rlimits := [{ type := str "RLIMIT_CORE", hard := 2, soft := 1 }]
    args := [str "a0"] }

def vA2 : Adjustment :=
  { annotations := [(str "-k0", []), (str "k0", str "v2"), (str "k2", str "w")]
    mounts := [{ destination := str "-/m0" }, { destination := str "/m0", type := str "tmpfs" },
               { destination := str "/c/d" }]
    env := [{ key := str "-FOO" }, { key := str "FOO", value := str "2" }, { key := str "BAR", value := str "3" }]
    hasLinux := true
    devices := [{ path := str "-/dev/x" }, { path := str "/dev/x", type := str "c", major := 5, minor := 6 },
                { path := str "-/dev/null" }]
    resources := some { cpu := some { quota := some 9 } }
    args := [[], str "b0", str "b1"] }

def vA3 : Adjustment :=
  { env := [{ key := str "PATH", value := str "/usr/bin" }],
    rlimits := [{ type := str "RLIMIT_NPROC", hard := 4, soft := 3 }] }

def vChain : List (Plugin × Option Response) :=
  [(str "00-a", some { adjust := some vA0 }), (str "10-b", none), (str "20-c", some { adjust := some vA2 }),
   (str "30-d", some { adjust := some vA3 }), (str "40-e", some {})]

/-- the hypotheses of `C04_view_agrees` / `C04_view_agrees_plain` hold for the demo chain at
    its last position (the fifth plugin is called: `viewsAlong` has an entry there) -/
example :
    specWF (toSpec vC0) = true ∧ (adjsOf vChain).all (viewGuard vC0) = true ∧
    ((viewsAlong Quirks.fixed (initCreate vC0) vChain)[4]?).isSome = true := by decide +kernel

/-- … and what it says there is not trivial: the fifth plugin is shown the environment in the
    order [FOO, BAR, PATH] while the generator, given the reply combined so far, produces
    [PATH, FOO, BAR] (same finite map); mounts, devices, args, hugepages, memory limit agree as
    `ViewAgrees` says; the spec's memory swap (100) is not shown in the view (outside the
    relation) -/
example :
    (((viewsAlong Quirks.fixed (initCreate vC0) vChain)[4]?).bind fun s =>
      match Generate.adjust {} (toSpec vC0) (toGen s.reply) with
      | .ok sC => some (s.view.env, sC.env, sC.mounts.map Oci.Mount.destination)
      | .error _ => none) =
    some ([str "FOO=2", str "BAR=3", str "PATH=/usr/bin"], [str "PATH=/usr/bin", str "FOO=2", str "BAR=3"],
          [str "/b", str "/m0", str "/c/d"]) := by decide +kernel

example :
    (((viewsAlong Quirks.fixed (initCreate vC0) vChain)[4]?).bind fun s =>
      match Generate.adjust {} (toSpec vC0) (toGen s.reply) with
      | .ok sC => some (decide (sC.devices = s.view.devices.map devConv), decide (sC.args = s.view.args),
          decide (sC.hugepages = s.view.resources.hugepages.map ociHugepage),
          decide (sC.memory.limit = some 100 ∧ (s.view.resources.memory.getD {}).limit = some 100),
          decide (sC.memory.swap = some 100 ∧ (s.view.resources.memory.getD {}).swap = none))
      | .error _ => none) = some (true, true, true, true, true) := by decide +kernel

/-- non-vacuity of `C04_overlay_simulates` / `C04_overlay_agrees`: the first adjustment of the
    demo on the original container -/
example :
    specWF (toSpec vC0) = true ∧ wellFormed vA0 = true ∧ limitNonzero vA0 = true ∧
    (match Generate.adjust {} (toSpec vC0) (toGen vA0) with | .ok _ => true | .error _ => false) = true := by
  decide +kernel

example : StepFresh vC0 vA0 := by
  constructor <;> decide +kernel

/-! ### witnesses: the weakenings and the extra guards are forced -/

def viewAndSpec (c0 : Container) (a : Adjustment) : Option (Container × Oci.Spec) :=
  match Generate.adjust {} (toSpec c0) (toGen a) with
  | .ok s => some (overlayContainer c0 a, s)
  | .error _ => none

/-- environment: a re-set variable is appended in the view, replaced in place by the generator -/
theorem view_env_order_differs :
    (viewAndSpec { id := str "c", env := [str "A=1", str "B=2"] }
        { env := [{ key := str "-A" }, { key := str "A", value := str "3" }] }).map
      (fun (c, s) => (c.env, s.env)) = some ([str "B=2", str "A=3"], [str "A=3", str "B=2"]) := by decide +kernel

/-- mounts: the view appends, the generator sorts -/
theorem view_mounts_order_differs :
    (viewAndSpec { id := str "c", mounts := [{ destination := str "/b" }] }
        { mounts := [{ destination := str "/a" }] }).map
      (fun (c, s) => (c.mounts.map Mount.destination, s.mounts.map Oci.Mount.destination)) =
    some ([str "/b", str "/a"], [str "/a", str "/b"]) := by decide +kernel

/-- memory: the container shows every field a plugin set; the generator applies only the
    limit, and applies it to the swap limit as well -/
theorem view_memory_other_fields_differ :
    (viewAndSpec { id := str "c" }
        { hasLinux := true, resources := some { memory := some { limit := some 100, reservation := some 5 } } }).map
      (fun (c, s) => (decide ((c.resources.memory.getD {}).limit = some 100 ∧ s.memory.limit = some 100),
                      decide ((c.resources.memory.getD {}).swap = none ∧ s.memory.swap = some 100),
                      decide ((c.resources.memory.getD {}).reservation = some 5 ∧ s.memory.reservation = none))) =
    some (true, true, true) := by decide +kernel

/-- guard `limitNonzero` (known finding C13:memory:limit-zero): a requested limit of 0 is shown
    to the next plugin but never applied by the generator -/
theorem guard_view_limit_zero :
    (viewAndSpec { id := str "c", resources := { memory := some { limit := some 7 } } }
        { hasLinux := true, resources := some { memory := some { limit := some 0 } } }).map
      (fun (c, s) => ((c.resources.memory.getD {}).limit, s.memory.limit)) = some (some 0, some 7) := by decide +kernel

/-- guard `hugeFresh`: a page size the original already has — the view lists both entries, the
    generator overwrites the first in place -/
theorem guard_view_hugepage_in_original :
    (viewAndSpec { id := str "c", resources := { hugepages := [{ pageSize := str "2MB", limit := 1 }] } }
        { hasLinux := true, resources := some { hugepages := [{ pageSize := str "2MB", limit := 4 }] } }).map
      (fun (c, s) => (c.resources.hugepages.map (fun h => (h.pageSize, h.limit)),
                      s.hugepages.map (fun h => (h.pageSize, h.limit)))) =
    some ([(str "2MB", 1), (str "2MB", 4)], [(str "2MB", 4)]) := by decide +kernel

/-- `StepFresh` (what the ledger guarantees) is needed by the per-adjustment simulation: an
    adjustment that sets one variable twice — which the collector rejects — is read differently
    by the overlay (first entry) and the generator (last entry) -/
theorem overlay_needs_distinct_sets :
    (viewAndSpec { id := str "c" }
        { env := [{ key := str "A", value := str "1" }, { key := str "A", value := str "2" }] }).map
      (fun (c, s) => (Generate.Env.lookup c.env (str "A"), Generate.Env.lookup s.env (str "A"))) =
    some (some (str "1"), some (str "2")) ∧
    (match run Quirks.fixed (initCreate { id := str "c" })
        [(str "00", some { adjust := some { env := [{ key := str "A", value := str "1" }, { key := str "A", value := str "2" }] } })] with
     | .ok _ => false | .error _ => true) = true := by decide +kernel

end Nri.Props.C04
