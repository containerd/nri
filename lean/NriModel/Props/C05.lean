import NriModel.Lemmas.ResultUpdates
import NriModel.Lemmas.ResultWalkRel
import NriModel.Lemmas.ResultWalkVals
/-!
# C05 — container updates are collected once per target with exactly the fields set

Model `Nri.Result` (`update`, `getContainerUpdate`, `updateResources`, the three response
getters). `touched rs` is the list of target ids the chain's update lists mention.

Two layers, for every chain, request and placement of ignore-failure flags. Per step: which
entries exist and in what order, what a conflicting update does with and without the
ignore-failure mark, what an applied update writes. At chain level the value statement — the
one the correspondence run evaluates on every generated chain (`Driver/Merge.lean:
exactFields`) — is proved by refinement of the state-free specification walk
`Nri.UpdateWalk.walk` (`C05_walk_refines`, `C05_exact_fields`): every returned entry carries, as
a structurally equal `Resources` value (no canonical form needed), what the walk yields for its
target; the overlay and single-source theorems are corollaries.
No hypothesis on the chain: an update that names one item twice (a repeated hugepage size or
unified key) is treated by the walk as by the ledger — the second mention collides with the
first, the update is not applied, only the items before the repeated one stay taken
(`C05_walk_repeated_item` is such a chain).
-/
namespace Nri.Props.C05
open Nri Nri.NApi Nri.Result Nri.Ledger Nri.UpdateWalk

theorem updWF_init (st : State) (h1 : st.updates = []) (h2 : st.own = none) : UpdWF st :=
  ⟨by simp [ids, h1], by simp [ids, h1], by simp [h2]⟩

/-- **One entry per target.** After any successful request the third-party entries have
    pairwise distinct targets, each is a target some plugin's update named, every named
    target other than the container being updated has one, and none of them is the container
    being updated. -/
theorem C05_one_entry_per_target (st st' : State) (rs : List (Plugin × Option Response))
    (h1 : st.updates = []) (h2 : st.own = none) (h : run Quirks.fixed st rs = .ok st') :
    (ids st'.updates).Nodup ∧
    (∀ id, id ∈ ids st'.updates ↔ id ∈ touched rs ∧ isOwn st.kind id = false) := by
  obtain ⟨wf, hid, _⟩ := run_entries _ st st' rs h (updWF_init st h1 h2)
  refine ⟨wf.nodup, fun id => ?_⟩
  rw [hid id]; simp [ids, h1]

/-- **Own entry last.** The reply to an update request is the third-party entries followed by
    exactly one more element: the nil placeholder when no plugin named the updated container,
    otherwise an entry for that container. -/
theorem C05_own_last (id : Cid) (req : Resources) (st' : State) (rs : List (Plugin × Option Response))
    (h : run Quirks.fixed (initUpdate id req) rs = .ok st') :
    replyUpdates st' = st'.updates.map some ++ [st'.own] ∧
    (st'.own = none ↔ id ∉ touched rs) ∧
    (∀ e, st'.own = some e → e.containerId = id) := by
  have hk : st'.kind = .update id := run_kind _ _ st' rs h
  obtain ⟨wf, _, hown⟩ := run_entries _ _ st' rs h (updWF_init (initUpdate id req) rfl rfl)
  refine ⟨by unfold replyUpdates; rw [hk], ?_, ?_⟩
  · have hown : st'.own.isSome = true ↔ id ∈ touched rs := by simpa [initUpdate, isOwn] using hown
    rw [← hown]
    cases st'.own <;> simp
  · intro e he
    have := wf.own e he
    rw [hk] at this
    simpa [isOwn, eq_comm] using this

/-- for creation and stop requests the reply is just the third-party entries -/
theorem C05_no_own_otherwise (st' : State) (h : ∀ id, st'.kind ≠ .update id) :
    replyUpdates st' = st'.updates.map some := by
  unfold replyUpdates
  cases hk : st'.kind with
  | update id => exact absurd hk (h id)
  | create id => rfl
  | stop => rfl

/-- **Self-update.** If any plugin's update list names the container being created, the
    creation request fails. -/
theorem C05_self_update (c0 : Container) (pre post : List (Plugin × Option Response)) (p : Plugin)
    (r : Response) (u : Update) (hu : u ∈ r.updates) (hid : u.containerId = c0.id) :
    ∃ e, run Quirks.fixed (initCreate c0) (pre ++ (p, some r) :: post) = .error e := by
  rw [run_append]
  cases h1 : run Quirks.fixed (initCreate c0) pre with
  | error e => exact ⟨e, rfl⟩
  | ok st1 =>
    have hk : st1.kind = .create c0.id := run_kind _ _ st1 pre h1
    simp only [run]
    have : ∃ e, apply Quirks.fixed st1 p r = .error e := by
      unfold apply
      rw [hk]
      simp only []
      cases h2 : adjust Quirks.fixed st1 p r.adjust with
      | error e => exact ⟨e, rfl⟩
      | ok st2 =>
        exact updateAll_fails_of_self _ st2 p r.updates c0.id
          (by rw [adjust_kind _ st1 st2 p r.adjust h2]; exact hk) u hu hid
    obtain ⟨e, he⟩ := this
    exact ⟨e, by rw [he]⟩

/-- **Ignored conflicting update.** When an update marked ignore-failure hits an owned field,
    the step succeeds and the collected data is exactly what `getContainerUpdate` left: the
    target has its (possibly new, empty) entry, no resource value of the update — not even of
    the fields before the conflicting one — reaches any entry or the resources shown to later
    plugins. -/
theorem C05_ignored_drop (st st1 : State) (p : Plugin) (u : Update)
    (hg : getUpdate Quirks.fixed st p u = .ok st1) (hi : u.ignoreFailure = true)
    (e : Err) (hc : (claimAllPartial u.containerId p st1.owners (updSets Quirks.fixed st1 u)).2 = some e) :
    ∃ st', update1 Quirks.fixed st p u = .ok st' ∧
      st'.updates = st1.updates ∧ st'.own = st1.own ∧ st'.reqRes = st1.reqRes ∧ st'.reply = st1.reply := by
  rcases update1_cases Quirks.fixed st p u with ⟨e', hg', _⟩ | ⟨st1', hg', h2⟩
  · rw [hg] at hg'; cases hg'
  · rw [hg] at hg'; cases hg'
    rcases h2 with ⟨o, hc', _⟩ | ⟨o, e', _, (⟨_, hu⟩ | ⟨hi', _⟩)⟩
    · rw [hc'] at hc; cases hc
    · exact ⟨_, hu, rfl, rfl, rfl, rfl⟩
    · rw [hi] at hi'; cases hi'

/-- **A conflicting update that is not marked ignore-failure fails the request step.** -/
theorem C05_conflict_fails (st st1 : State) (p : Plugin) (u : Update)
    (hg : getUpdate Quirks.fixed st p u = .ok st1) (hi : u.ignoreFailure = false)
    (e : Err) (hc : (claimAllPartial u.containerId p st1.owners (updSets Quirks.fixed st1 u)).2 = some e) :
    update1 Quirks.fixed st p u = .error e := by
  rcases update1_cases Quirks.fixed st p u with ⟨e', hg', _⟩ | ⟨st1', hg', h2⟩
  · rw [hg] at hg'; cases hg'
  · rw [hg] at hg'; cases hg'
    rcases h2 with ⟨o, hc', _⟩ | ⟨o, e', hc', (⟨hi', _⟩ | ⟨_, hu⟩)⟩
    · rw [hc'] at hc; cases hc
    · rw [hi] at hi'; cases hi'
    · rw [hc'] at hc; cases hc; exact hu

/-- **Fields of an applied update (per step).** When an update is applied, every scalar the
    update sets appears in the result with the update's value, every scalar it leaves unset
    keeps the base value (the runtime's request for the updated container, the entry so far
    otherwise), hugepage limits are appended and unified keys assigned. -/
theorem C05_applied_fields (base r : Resources) (m : Memory) (c : Cpu)
    (hm : r.memory = some m) (hc : r.cpu = some c) :
    let out := overlayRes base r r.pids
    (out.memory.map (·.limit) = some (m.limit.orElse fun _ => (base.memory.getD {}).limit)) ∧
    (out.memory.map (·.swappiness) = some (m.swappiness.orElse fun _ => (base.memory.getD {}).swappiness)) ∧
    (out.cpu.map (·.shares) = some (c.shares.orElse fun _ => (base.cpu.getD {}).shares)) ∧
    (out.cpu.map (·.cpus) = some (if c.cpus ≠ [] then c.cpus else (base.cpu.getD {}).cpus)) ∧
    out.pids = (r.pids.orElse fun _ => base.pids) ∧
    out.hugepages = base.hugepages ++ r.hugepages ∧
    out.blockioClass = (r.blockioClass.orElse fun _ => base.blockioClass) ∧
    out.rdtClass = (r.rdtClass.orElse fun _ => base.rdtClass) := by
  simp [overlayRes, overlayMem, overlayCpu, hm, hc]


private def updOf (id : Str) (r : Resources) (ign : Bool := false) : Update :=
  { containerId := id, resources := some r, ignoreFailure := ign }

/-- the chain of the examples below: three plugins answer an update request of `c0`
    (requested: pids 5); the second plugin's update of `ctrA` is marked ignore-failure and names
    cpu shares (free) and then pids (owned by the first plugin): it is dropped, its claim of cpu
    shares stays -/
private def chain3 : List (Plugin × Response) :=
  [(str "10-a", { updates := [updOf (str "ctrA") { pids := some 1 }, updOf (str "c0") { memory := some { limit := some 3 } }] }),
   (str "20-b", { updates := [updOf (str "ctrA") { cpu := some { shares := some 9 }, pids := some 2 } true] }),
   (str "30-c", { updates := [updOf (str "ctrA") { cpu := some { quota := some 4 } }, updOf (str "c0") { pids := some 7 }] })]

private def req3 : Resources := { pids := some 5 }
private def base3 : Cid → Resources := specBase (.update (str "c0")) req3

/-- **The model refines the walk.** For a request started in a fresh collector state and any
    chain, after a successful request
    (i) every entry of the reply's update list (third-party entries and the own entry) carries
    exactly the resources the specification walk yields for its target, and
    (ii) a `(target, item)` pair is taken in the walk iff it has an owner in the ledger (for
    every target other than the container being created). -/
theorem C05_walk_refines (st0 st' : State) (rs : List (Plugin × Response))
    (h1 : st0.updates = []) (h2 : st0.own = none) (h3 : st0.owners = [])
    (h : run Quirks.fixed st0 (answeredAll rs) = .ok st') :
    (∀ e, some e ∈ replyUpdates st' →
       e.resources = some ((walk (baseOf st0) rs).get (baseOf st0) e.containerId)) ∧
    (∀ c it, st0.kind ≠ .create c →
       ((c, it) ∈ (walk (baseOf st0) rs).taken ↔ (st'.owners.owner c it).isSome = true)) := by
  obtain ⟨rel, ok⟩ := run_rel (baseOf st0) rs st0 st' {} (rel_fresh st0 h1 h3) (entOK_fresh st0 h1 h2) h
  rw [← walk_eq] at rel
  refine ⟨fun e he => ?_, fun c it hc => ?_⟩
  · rw [replyUpdates_vals st' ok e he, rel.vals]
  · exact rel.taken c it (by rw [run_kind _ st0 st' _ h]; exact hc)

-- on chain3 the walk holds pids 1 / quota 4 / no shares for ctrA, and the
-- dropped update's claim of cpu shares is taken in the walk and owned (by 20-b) in the ledger
example :
    (let r := (walk base3 chain3).get base3 (str "ctrA")
     (r.pids, (r.cpu.getD {}).shares, (r.cpu.getD {}).quota)) = (some 1, none, some 4) ∧
    (walk base3 chain3).taken.contains (str "ctrA", Item.cpuShares) = true ∧
    (match run Quirks.fixed (initUpdate (str "c0") req3) (answeredAll chain3) with
     | .ok st => st.owners.owner (str "ctrA") Item.cpuShares
     | .error _ => none) = some (str "20-b") := by decide +kernel


/-- **Exact fields (C05, value clause), every request kind.** For an update request of `id`
    with any requested resources `req`, a stop request, or the creation of `c0`: after a
    successful request every returned entry `e` has
    `e.resources = some ((walk base rs).get base e.containerId)` with the driver's base
    (`specBase`: `normRes req` for the container being updated, `normRes {}` otherwise).
    Equality is structural equality of `Resources`. -/
theorem C05_exact_fields (st0 st' : State) (req : Resources) (rs : List (Plugin × Response))
    (hinit : (∃ id, st0 = initUpdate id req) ∨ st0 = initStop ∨ ∃ c0, st0 = initCreate c0)
    (h : run Quirks.fixed st0 (answeredAll rs) = .ok st') :
    ∀ e, some e ∈ replyUpdates st' →
      e.resources = some ((walk (specBase st0.kind req) rs).get (specBase st0.kind req) e.containerId) := by
  have hb : baseOf st0 = specBase st0.kind req ∧ st0.updates = [] ∧ st0.own = none ∧ st0.owners = [] := by
    rcases hinit with ⟨id, rfl⟩ | rfl | ⟨c0, rfl⟩
    · exact ⟨baseOf_initUpdate id req, rfl, rfl, rfl⟩
    · exact ⟨by funext c; simp [baseOf, specBase, initStop, isOwn], rfl, rfl, rfl⟩
    · exact ⟨by funext c; simp [baseOf, specBase, initCreate, isOwn], rfl, rfl, rfl⟩
  obtain ⟨hb, h1, h2, h3⟩ := hb
  have := (C05_walk_refines st0 st' rs h1 h2 h3 h).1
  rw [hb] at this
  exact this

-- on chain3 the request succeeds and both returned entries (ctrA, then c0 last) equal the walk
example :
    (match run Quirks.fixed (initUpdate (str "c0") req3) (answeredAll chain3) with
     | .ok st => (replyUpdates st).map fun (e : Option Update) => e.map fun (e : Update) =>
         (e.containerId, decide (e.resources = some ((walk base3 chain3).get base3 e.containerId)))
     | .error _ => []) = [some (str "ctrA", true), some (str "c0", true)] := by decide +kernel


/-- **Exact fields, chains with unsubscribed or dropped plugins.** The same for a chain in which
    some plugins do not answer (`none`): the walk runs over the plugins that did. -/
theorem C05_exact_fields_dropped (st0 st' : State) (req : Resources) (rs : List (Plugin × Option Response))
    (hinit : (∃ id, st0 = initUpdate id req) ∨ st0 = initStop ∨ ∃ c0, st0 = initCreate c0)
    (h : run Quirks.fixed st0 rs = .ok st') :
    ∀ e, some e ∈ replyUpdates st' →
      e.resources = some ((walk (specBase st0.kind req) (answered rs)).get (specBase st0.kind req) e.containerId) :=
  C05_exact_fields st0 st' req (answered rs) hinit (by rw [← run_answered]; exact h)

-- chain3 with a plugin that is not subscribed between the second and the third
example :
    let rs : List (Plugin × Option Response) :=
      (answeredAll (chain3.take 2)) ++ (str "25-x", none) :: answeredAll (chain3.drop 2)
    (answered rs).map (fun x => (x.1, x.2.updates)) = chain3.map (fun x => (x.1, x.2.updates)) ∧
    (match run Quirks.fixed (initUpdate (str "c0") req3) rs with
     | .ok st => (replyUpdates st).map fun (e : Option Update) => e.map fun (e : Update) =>
         (e.containerId, decide (e.resources = some ((walk base3 (answered rs)).get base3 e.containerId)))
     | .error _ => []) = [some (str "ctrA", true), some (str "c0", true)] := by decide +kernel

/-- **Entries are overlays of the applied updates.** Every returned entry is its base overlaid,
    in chain order, with exactly the updates the walk applies to its target — nothing of any
    other update reaches it. -/
theorem C05_entry_overlay (st0 st' : State) (rs : List (Plugin × Response))
    (h1 : st0.updates = []) (h2 : st0.own = none) (h3 : st0.owners = [])
    (h : run Quirks.fixed st0 (answeredAll rs) = .ok st') :
    ∀ e, some e ∈ replyUpdates st' →
      e.resources = some
        (((appliedFrom (baseOf st0) {} (flatUpdates rs)).filter fun u => u.containerId = e.containerId).foldl
          overlayUpd (baseOf st0 e.containerId)) := by
  intro e he
  rw [(C05_walk_refines st0 st' rs h1 h2 h3 h).1 e he, walk_eq, foldl_get]
  rfl

-- of the five updates of chain3 the walk applies four: all but the ignore-failure one
example :
    (flatUpdates chain3).map (·.ignoreFailure) = [false, false, true, false, false] ∧
    (appliedFrom base3 {} (flatUpdates chain3)).map (·.ignoreFailure) = [false, false, false, false] ∧
    ((appliedFrom base3 {} (flatUpdates chain3)).filter fun u => u.containerId = str "ctrA").length = 2 := by decide +kernel


/-- **Ignored conflicting update, chain level.** If the update `u` at some position of the
    chain's update lists names an item that is taken when the walk reaches it (by
    `C05_walk_refines` (ii): an item that has an owner), then `u` is not among the updates
    overlaid on any entry: every returned entry is its base overlaid with the applied updates
    before `u` and the applied updates after `u` — no value of `u`, not even of the fields
    before the taken one, reaches any entry. (In a successful request such a `u` is marked
    ignore-failure: `C05_conflict_fails`.) -/
theorem C05_ignored_drop_chain (st0 st' : State) (rs : List (Plugin × Response))
    (h1 : st0.updates = []) (h2 : st0.own = none) (h3 : st0.owners = [])
    (h : run Quirks.fixed st0 (answeredAll rs) = .ok st')
    (pre post : List Update) (u : Update) (hflat : flatUpdates rs = pre ++ u :: post)
    (it : Item) (hit : it ∈ setsUpd u)
    (htaken : (u.containerId, it) ∈ (pre.foldl (simUpdate (baseOf st0)) {}).taken) :
    ∀ e, some e ∈ replyUpdates st' →
      e.resources = some
        (((appliedFrom (baseOf st0) {} pre ++
            appliedFrom (baseOf st0) (simUpdate (baseOf st0) (pre.foldl (simUpdate (baseOf st0)) {}) u) post).filter
          fun v => v.containerId = e.containerId).foldl overlayUpd (baseOf st0 e.containerId)) := by
  intro e he
  rw [C05_entry_overlay st0 st' rs h1 h2 h3 h e he, hflat, appliedFrom_append]
  simp only [appliedFrom, not_applies_of_taken _ u it hit htaken, Bool.false_eq_true, ↓reduceIte, List.nil_append]

-- chain3 splits at its third update (20-b's, ignore-failure); its item pids is taken there
example :
    flatUpdates chain3 =
      [updOf (str "ctrA") { pids := some 1 }, updOf (str "c0") { memory := some { limit := some 3 } }] ++
      updOf (str "ctrA") { cpu := some { shares := some 9 }, pids := some 2 } true ::
      [updOf (str "ctrA") { cpu := some { quota := some 4 } }, updOf (str "c0") { pids := some 7 }] ∧
    Item.pids ∈ setsUpd (updOf (str "ctrA") { cpu := some { shares := some 9 }, pids := some 2 } true) ∧
    (str "ctrA", Item.pids) ∈
      ([updOf (str "ctrA") { pids := some 1 }, updOf (str "c0") { memory := some { limit := some 3 } }].foldl
        (simUpdate base3) {}).taken ∧
    -- and no value of it is returned: cpu shares of ctrA stay unset
    (match run Quirks.fixed (initUpdate (str "c0") req3) (answeredAll chain3) with
     | .ok st => st.updates.map fun e => ((e.resources.getD {}).cpu.getD {}).shares
     | .error _ => []) = [none] := by decide +kernel


/-- **Single source per field.** For every returned entry and every item `it`, among the
    updates overlaid on the entry (`C05_entry_overlay`) either exactly one names `it`, and the
    entry's field is that update's value, or none does and the field is the base value — values
    of different updates (hence of different plugins) are never merged into one field.
    `fieldVal` reads the 18 scalars and the unified keys (hugepage limits, which are appended,
    read as `other`). -/
theorem C05_single_source (st0 st' : State) (rs : List (Plugin × Response))
    (h1 : st0.updates = []) (h2 : st0.own = none) (h3 : st0.owners = [])
    (h : run Quirks.fixed st0 (answeredAll rs) = .ok st')
    (e : Update) (he : some e ∈ replyUpdates st') (res : Resources) (hres : e.resources = some res)
    (it : Item) :
    let app := (appliedFrom (baseOf st0) {} (flatUpdates rs)).filter fun u => u.containerId = e.containerId
    (∃ pre u post r, app = pre ++ u :: post ∧ u.resources = some r ∧ it ∈ setsUpd u ∧
        (∀ v ∈ pre ++ post, it ∉ setsUpd v) ∧ fieldVal it res = fieldVal it r) ∨
    ((∀ v ∈ app, it ∉ setsUpd v) ∧ fieldVal it res = fieldVal it (baseOf st0 e.containerId)) := by
  intro app
  have hval := C05_entry_overlay st0 st' rs h1 h2 h3 h e he
  rw [hres] at hval
  cases hval
  refine fold_field_cases it app _ ?_ fun u hu => (appliedFrom_mem _ _ _ u (List.mem_filter.1 hu).1).2.1
  refine List.Pairwise.imp_of_mem ?_ ((appliedFrom_pairwise (baseOf st0) (flatUpdates rs) {}).filter _)
  intro v w hv hw hvw
  have hv' := of_decide_eq_true (List.mem_filter.1 hv).2
  have hw' := of_decide_eq_true (List.mem_filter.1 hw).2
  exact hvw (hv'.trans hw'.symm)

-- both alternatives occur on chain3 for the entry of ctrA: cpu quota comes from 30-c's update
-- alone, cpu shares (named only by the dropped update) keep the base value
example :
    let app := (appliedFrom base3 {} (flatUpdates chain3)).filter fun u => u.containerId = str "ctrA"
    app = [updOf (str "ctrA") { pids := some 1 }] ++ updOf (str "ctrA") { cpu := some { quota := some 4 } } :: [] ∧
    Item.cpuQuota ∈ setsUpd (updOf (str "ctrA") { cpu := some { quota := some 4 } }) ∧
    (∀ v ∈ app, Item.cpuShares ∉ setsUpd v) ∧
    fieldVal Item.cpuShares ((walk base3 chain3).get base3 (str "ctrA")) = fieldVal Item.cpuShares (base3 (str "ctrA")) ∧
    fieldVal Item.cpuQuota ((walk base3 chain3).get base3 (str "ctrA")) = FVal.int (some 4) := by decide +kernel

/-- **An update naming an item twice.** An ignore-failure update names hugepage size `2M` twice
    and then a block I/O class: ledger and walk both stop at the repeated size — the update is
    dropped, only the first `2M` stays taken, the class is not — so the later plugin's class is
    applied, and the returned entry equals the walk. -/
theorem C05_walk_repeated_item :
    let dup : List (Plugin × Response) :=
      [(str "10-a", { updates := [updOf (str "ctrA")
          { hugepages := [{ pageSize := str "2M", limit := 1 }, { pageSize := str "2M", limit := 2 }],
            blockioClass := some (str "x") } true] }),
       (str "20-b", { updates := [updOf (str "ctrA") { blockioClass := some (str "y") }] })]
    ¬ (∀ u ∈ flatUpdates dup, (setsUpd u).Nodup) ∧
    (match run Quirks.fixed initStop (answeredAll dup) with
     | .ok st => st.updates.map fun e =>
         ((e.resources.getD {}).blockioClass, (e.resources.getD {}).hugepages.length,
          decide (e.resources = some ((walk (specBase .stop {}) dup).get (specBase .stop {}) e.containerId)))
     | .error _ => []) = [(some (str "y"), 0, true)] ∧
    (walk (specBase .stop {}) dup).taken =
      [(str "ctrA", Item.hugepage (str "2M")), (str "ctrA", Item.blockio)] := by decide +kernel

/-! ### the hypotheses are satisfiable -/

-- own entry last, third-party entries once each although ctrA is named twice
example :
    (match run Quirks.fixed (initUpdate (str "c0") { pids := some 5 })
      [(str "10-a", some { updates := [updOf (str "ctrA") { pids := some 1 }, updOf (str "c0") { memory := some { limit := some 3 } }] }),
       (str "20-b", some { updates := [updOf (str "ctrA") { cpu := some { shares := some 2 } }] })] with
     | .ok st => (replyUpdates st).map (fun e => e.map (·.containerId))
     | .error _ => []) = [some (str "ctrA"), some (str "c0")] := by decide +kernel

-- untouched updated container: nil placeholder last
example :
    (match run Quirks.fixed (initUpdate (str "c0") { pids := some 5 })
      [(str "10-a", some { updates := [updOf (str "ctrA") { pids := some 1 }] })] with
     | .ok st => (replyUpdates st).map (fun e => e.map (·.containerId))
     | .error _ => []) = [some (str "ctrA"), none] := by decide +kernel

-- an ignored conflicting update: dropped in its entirety (cpu shares 9 precede the conflicting pids)
example :
    (match run Quirks.fixed initStop
      [(str "10-a", some { updates := [updOf (str "ctrA") { pids := some 1 }] }),
       (str "20-b", some { updates := [updOf (str "ctrA") { cpu := some { shares := some 9 }, pids := some 2 } true] })] with
     | .ok st => st.updates.map (fun e => ((e.resources.getD {}).pids, ((e.resources.getD {}).cpu.getD {}).shares))
     | .error _ => []) = [(some 1, none)] := by decide +kernel

end Nri.Props.C05
