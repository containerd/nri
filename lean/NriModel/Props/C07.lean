import NriModel.Lemmas.DispatchHistory
/-!
Property C07 — failing plugins cannot stall, crash or corrupt a request; handler errors veto it.

Model: `NriModel/Dispatch.lean`. What is PROVED here is the decision logic: how the loop treats
the outcome of each per-plugin call (`ok` / fatal / the handler's own error), what it returns,
whom it calls, whom it drops, and how many ticks it can spend. What is only MEASURED (by the
fault campaign of the harness) is that the Go runtime and ttRPC turn real transport faults into
those outcomes within the wall-clock bound and without panics or deadlocks.
-/
namespace Nri.Props.C07
open Nri Nri.Events Nri.Dispatch

variable {ρ σ ο ε : Type}

/-- **Result.** If no subscribed plugin answers with its own error, the request returns exactly
    the merged result of the responses of the subscribed plugins whose call succeeded, in list
    order (`okResponses`) — plugins whose call failed fatally (closed, protocol error, timeout,
    already marked closed) contribute nothing and change nothing; and that is precisely what was
    handed to `apply`. -/
theorem C07_result (M : Merger ρ σ ο ε) (T : Nat) (ev : EventNo) (pcs : List (Plugin × Call ρ))
    (hv : hasVeto T ev pcs = false) :
    (request M T ev pcs).1 = (liftCombine (combine M M.init (okResponses T ev pcs))).map M.finish ∧
    ((∃ o, (request M T ev pcs).1 = .ok o) → (request M T ev pcs).2.1.oks = okResponses T ev pcs) := by
  refine ⟨?_, ?_⟩
  · rw [request_fst, relay_result_noveto M T ev M.init pcs hv]
  · rintro ⟨o, ho⟩
    exact (relay_of_ok M T ev M.init pcs (map_eq_ok ho)).2

/-- **Intact contributions.** Said differently: the reply is the one the request would have
    produced had the fatally failing plugins not been in the list at all. -/
theorem C07_as_if_absent (M : Merger ρ σ ο ε) (T : Nat) (ev : EventNo) (pcs : List (Plugin × Call ρ))
    (hv : hasVeto T ev pcs = false) :
    (request M T ev pcs).1 = (request M T ev (pcs.filter fun pc => !failsFatally T ev pc)).1 := by
  have h1 := (C07_result M T ev pcs hv).1
  have hv' : hasVeto T ev (pcs.filter fun pc => !failsFatally T ev pc) = false := by
    rw [hasVeto_filter_fatal]; exact hv
  have h2 := (C07_result M T ev _ hv').1
  rw [h1, h2, okResponses_filter_fatal]

section examples
def pA : Plugin := ⟨0, str "10", str "a", 0x1fff#32, false⟩
def pB : Plugin := ⟨1, str "20", str "b", 0x1fff#32, false⟩
def pC : Plugin := ⟨2, str "30", str "c", 0x1fff#32, false⟩
def ok (n : Nat) : Call Nat := ⟨.ok n, true, 1⟩
def listM : Merger Nat (List Nat) (List Nat) Unit := ⟨[], fun a _ r => .ok (a ++ [r]), id⟩
end examples

/-- the middle plugin dies (closed connection; or answers after the deadline): the other two come through -/
example : (request listM 5 4 [(pA, ok 1), (pB, ⟨.fatal .closed, false, 0⟩), (pC, ok 3)]).1 = .ok [1, 3] ∧
    (request listM 5 4 [(pA, ok 1), (pB, ⟨.ok 2, true, 6⟩), (pC, ok 3)]).1 = .ok [1, 3] ∧
    hasVeto 5 4 [(pA, ok 1), (pB, ⟨.ok 2, true, 6⟩), (pC, ok 3)] = false := ⟨rfl, rfl, rfl⟩

/-- **Veto.** If the plugin at some position answers with its own error `m`, and nothing before
    it aborted the loop, then the request fails with exactly that error (an `Except.error`: there
    is no partial result), the plugins called are the subscribed ones before it and itself, only
    the responses before it were ever applied, and — plugin identities being distinct — NO
    plugin behind it is called. -/
theorem C07_veto (M : Merger ρ σ ο ε) (T : Nat) (ev : EventNo)
    (pre post : List (Plugin × Call ρ)) (p : Plugin) (c : Call ρ) (m : Str)
    (hs : subscribed ev p = true) (ho : (effOut T p c).1 = .handlerErr m)
    (hv : hasVeto T ev pre = false) (acc' : σ)
    (hc : combine M M.init (okResponses T ev pre) = .ok acc')
    (hn : ((pre ++ (p, c) :: post).map (·.1.id)).Nodup) :
    let out := request M T ev (pre ++ (p, c) :: post)
    out.1 = .error (.veto p m) ∧
    out.2.1.attempted = subscribers ev pre ++ [p] ∧
    out.2.1.oks = okResponses T ev pre ∧
    (∀ q ∈ post, q.1 ∉ out.2.1.attempted ∧ q.1 ∉ out.2.1.handled) := by
  obtain ⟨d, ho'⟩ : ∃ d, effOut T p c = (.handlerErr m, d) := ⟨(effOut T p c).2, by rw [← ho]⟩
  -- the loop runs through `pre`, then stops at `p`
  have hr : (relayLoop M T ev M.init pre).1 = .ok acc' := by
    rw [relay_result_noveto M T ev M.init pre hv, hc]
    rfl
  obtain ⟨h1, h2, h3⟩ := relay_append M T ev M.init pre acc' hr ((p, c) :: post)
  rw [relayLoop] at h1 h2 h3
  simp only [hs, ho', Bool.not_true, Bool.false_eq_true, if_false] at h1 h2 h3
  rw [(relay_of_ok M T ev M.init pre ⟨acc', hr⟩).1] at h2
  rw [(relay_of_ok M T ev M.init pre ⟨acc', hr⟩).2, List.append_nil] at h3
  have h4 : ∀ q ∈ post, q.1 ∉ (relayLoop M T ev M.init (pre ++ (p, c) :: post)).2.attempted := by
    intro q hq hmem
    rw [← List.singleton_append, ← List.append_assoc] at hn
    apply not_mem_front hn q hq
    rw [List.map_append]
    rcases List.mem_append.1 (h2 ▸ hmem) with h | h
    · exact List.mem_append_left _ (List.mem_filter.1 h).1
    · exact List.mem_append_right _ h
  refine ⟨by rw [request_fst, h1]; rfl, h2, h3, fun q hq => ⟨h4 q hq, fun hh => h4 q hq ?_⟩⟩
  exact ((relay_handled_sublist M T ev M.init _).trans List.filter_sublist).subset hh

example : (request listM 5 4 [(pA, ok 1), (pB, ⟨.handlerErr (str "no"), true, 1⟩), (pC, ok 3)]).1
      = .error (.veto pB (str "no")) ∧
    (request listM 5 4 [(pA, ok 1), (pB, ⟨.handlerErr (str "no"), true, 1⟩), (pC, ok 3)]).2.1.attempted = [pA, pB] :=
  ⟨rfl, rfl⟩

/-- **Dropped.** Plugin identities being distinct: a plugin that was already marked closed, or
    whose call in this request failed fatally, is not in the list the request leaves behind. -/
theorem C07_dropped (M : Merger ρ σ ο ε) (T : Nat) (ev : EventNo) (pcs : List (Plugin × Call ρ))
    (hn : (pcs.map (·.1.id)).Nodup) (pc : Plugin × Call ρ) (hpc : pc ∈ pcs)
    (h : pc.1.closed = true ∨
         (pc.1 ∈ (request M T ev pcs).2.1.attempted ∧ isFatal (effOut T pc.1 pc.2).1 = true)) :
    pc.1.id ∉ (request M T ev pcs).2.2.map (·.id) := by
  simp only [request] at h ⊢
  obtain ⟨done, rest, rfl, -, ha, -, haf⟩ := relay_split M T ev M.init pcs
  intro hmem
  obtain ⟨q, hq, hqi⟩ := List.mem_map.1 hmem
  obtain ⟨hqa, hqo⟩ := List.mem_filter.1 hq
  rw [ha] at h
  -- identities being distinct, an entry of the list with `pc`'s identity is `pc`
  have key : ∀ pc' ∈ done ++ rest, pc'.1.id = pc.1.id → pc' = pc :=
    fun pc' h' e => nodup_map_inj (·.1.id) _ hn pc' h' pc hpc e
  rcases List.mem_append.1 (haf ▸ hqa) with hq | hq
  · -- `q` is what the loop left of `pc`, and is open: `pc` was open and did not fail
    obtain ⟨pc', hpc', rfl⟩ := List.mem_map.1 hq
    have hid : pc'.1.id = pc.1.id := by
      rw [← hqi, afterCall]
      split <;> rfl
    cases key pc' (List.mem_append_left _ hpc') hid
    rw [afterCall] at hqo
    split at hqo
    · cases hqo
    · rename_i hnf
      rcases h with hc | ⟨hin, hf⟩
      · rw [hc] at hqo
        cases hqo
      · exact hnf (Bool.and_eq_true_iff.2 ⟨(List.mem_filter.1 hin).2, hf⟩)
  · -- `q` is `pc` itself, beyond the part the loop worked through: open and not called
    obtain ⟨pc', hpc', rfl⟩ := List.mem_map.1 hq
    cases key pc' (List.mem_append_right _ hpc') hqi
    rcases h with hc | ⟨hin, -⟩
    · rw [hc] at hqo
      cases hqo
    · exact not_mem_front hn pc hpc' (List.mem_filter.1 hin).1


example : (request listM 5 4 [(pA, ok 1), (pB, ⟨.fatal .protocol, true, 1⟩), (pC, ok 3)]).2.2 = [pA, pC] := by
  decide +kernel

/-- … and from then on it is never called again: in every continuation of the history, as long
    as no NEW registration carries the same identity, the identity stays out of the plugin list
    and no later relay calls it. -/
theorem C07_never_again (Mof : Nat → EventNo → Merger ρ σ ο ε) (T : Nat) (id : Nat) (h : List (Ev ρ))
    (s s' : LState ρ ο ε) (hr : run? Mof T s h = some s')
    (hgone : id ∉ s.plugins.map (·.id))
    (hnew : ∀ p arr, Ev.activate p arr ∈ h → p.id ≠ id) :
    id ∉ s'.plugins.map (·.id) ∧
    ∀ d ∈ s'.log, d ∈ s.log ∨ ∀ q ∈ d.trace.attempted, q.id ≠ id := by
  refine Run.induct_on (run?_eq Mof T)
    (P := fun s1 => id ∉ s1.plugins.map (·.id) ∧ ∀ d ∈ s1.log, d ∈ s.log ∨ ∀ q ∈ d.trace.attempted, q.id ≠ id)
    (D := fun e => ∀ p arr, e = Ev.activate p arr → p.id ≠ id) ?_ ⟨hgone, fun d hd => Or.inl hd⟩
    (fun e he p arr hpa => hnew p arr (hpa ▸ he)) hr
  intro s1 s2 e hq ⟨hid1, hlog1⟩ hst
  refine step?_cases (motive := fun e s2 => (∀ p arr, e = Ev.activate p arr → p.id ≠ id) →
    id ∉ s2.plugins.map (·.id) ∧ ∀ d ∈ s2.log, d ∈ s.log ∨ ∀ q ∈ d.trace.attempted, q.id ≠ id)
    hst ?_ ?_ ?_ ?_ ?_ hq
  · intro t rid ev _ _
    exact ⟨hid1, hlog1⟩
  · intro t calls rid ev _ hl _
    obtain ⟨h1, h2⟩ := request_ids (Mof rid ev) T ev s1.plugins calls hl
    refine ⟨fun hmem => hid1 (h1 id hmem), fun d hd => ?_⟩
    rcases List.mem_cons.1 hd with rfl | hd
    · exact Or.inr fun q hq he => hid1 (he ▸ h2 q hq)
    · exact hlog1 d hd
  · intro t rid res _ _
    exact ⟨hid1, hlog1⟩
  · intro p arr hac hq
    refine ⟨fun hmem => ?_, hlog1⟩
    obtain ⟨q, hq', hqi⟩ := List.mem_map.1 hmem
    rcases List.mem_append.1 (((isActivation_iff _ _ _).1 hac).1.subset hq') with hq' | hq'
    · exact hid1 (hqi ▸ List.mem_map_of_mem (List.mem_filter.1 hq').1)
    · rw [List.mem_singleton.1 hq'] at hqi
      exact hq p arr rfl hqi
  · intro i _
    exact ⟨by rw [disconnect_map (·.id) (fun _ => rfl)]; exact hid1, hlog1⟩

/-- a closed plugin's handler is never recorded as having run -/
theorem C07_closed_not_handled (M : Merger ρ σ ο ε) (T : Nat) (ev : EventNo) (pcs : List (Plugin × Call ρ)) :
    ∀ q ∈ (request M T ev pcs).2.1.handled, q.closed = false := by
  intro q hq
  have := (relay_handled_sublist M T ev M.init pcs).subset hq
  simpa using (List.mem_filter.1 this).2

/-- **Time.** One plugin call costs at most the request timeout `T` (a call that would take
    longer is cut off at `T`), so a request spends at most (plugins called) × `T` ≤
    (plugins) × `T` ticks in plugin calls — whatever the plugins do. -/
theorem C07_time (M : Merger ρ σ ο ε) (T : Nat) (ev : EventNo) (pcs : List (Plugin × Call ρ)) :
    (request M T ev pcs).2.1.ticks ≤ (request M T ev pcs).2.1.attempted.length * T ∧
    (request M T ev pcs).2.1.attempted.length * T ≤ pcs.length * T := by
  refine ⟨relay_ticks M T ev M.init pcs, Nat.mul_le_mul_right T ?_⟩
  have := (relay_attempted_sublist M T ev M.init pcs).length_le
  rwa [List.length_map] at this

example : (request listM 5 4 [(pA, ok 1), (pB, ⟨.ok 2, true, 1000⟩), (pC, ⟨.ok 3, true, 77⟩)]).2.1.ticks = 11 := by
  decide +kernel

/-- `isFatalError` as it stands drops the plugin for the four error classes it lists
    (partial: see `unfixed_*` below for what it misses). -/
theorem C07_classify_partial (e : CallErr) (r : ρ)
    (h : e = .ttrpcClosed ∨ e = .serverClosed ∨ e = .protocol ∨ e = .deadline) :
    isFatal (classify isFatalError (.error e : Except CallErr ρ)) = true ∧
    isFatal (classify isFatalError (.ok r : Except CallErr ρ)) = false := by
  rcases h with rfl | rfl | rfl | rfl <;> exact ⟨rfl, rfl⟩

/-- FULL statement, true of the repaired classification (docs/fixes/C07-1.patch): every failure
    of the plugin or its connection drops the plugin; only what the plugin's handler returned
    (a status error) vetoes; the caller's own cancellation is neither. -/
theorem C07_classify_fixed (e : CallErr) :
    (pluginFailure e = true → isFatal (classify isFatalErrorFixed (.error e : Except CallErr ρ)) = true) ∧
    (∀ c m, e = .status c m → classify isFatalErrorFixed (.error e : Except CallErr ρ) = .handlerErr m) := by
  cases e <;> simp [pluginFailure, classify, isFatalErrorFixed, isFatalError, isFatal, errText]

/-- **A handler's error always vetoes**, whatever it looks like. Whatever error value a plugin's
    handler returns over its healthy connection — `context.DeadlineExceeded`, `context.Canceled`,
    `io.EOF`, `io.ErrUnexpectedEOF`, a status error with ANY code (DeadlineExceeded, Unavailable,
    ResourceExhausted, Canceled, …), `ttrpc.ErrClosed` / `ErrServerClosed` / `ErrProtocol` or any
    other value, with any text — it reaches the runtime as a status error (`onWire`), and both the
    unrepaired and the repaired `isFatalError` classify it as the handler's own error carrying
    its message; so by `C07_veto` the request fails with it, nobody behind is called, nothing
    partial is returned, and (the outcome not being fatal) the plugin is not closed. -/
theorem C07_handler_error_vetoes (h : HandlerErr) (msg : Str) :
    classify isFatalErrorFixed (.error (onWire h msg) : Except CallErr ρ) = .handlerErr msg ∧
    classify isFatalError (.error (onWire h msg) : Except CallErr ρ) = .handlerErr msg ∧
    isFatal (classify isFatalErrorFixed (.error (onWire h msg) : Except CallErr ρ)) = false := by
  cases h <;> exact ⟨rfl, rfl, rfl⟩

/-- at the level of a request: the middle plugin's handler returns `context.DeadlineExceeded`
    at once — the request is vetoed, `c` is not called, `b` stays in the list -/
example :
    (request listM 5 4 [(pA, ok 1),
      (pB, ⟨classify isFatalErrorFixed (.error (onWire .ctxDeadline (str "context deadline exceeded"))), true, 1⟩),
      (pC, ok 3)]) =
    (.error (.veto pB (str "context deadline exceeded")), ⟨[pA, pB], [pA, pB], [(pA, 1)], [pA, pB, pC], 2⟩, [pA, pB, pC]) := rfl

/-- not vacuous: a classification that takes the status code DeadlineExceeded for a dead
    connection swallows that veto (partial result `[1,3]`, `c` called, `b` dropped) -/
example :
    (request listM 5 4 [(pA, ok 1),
      (pB, ⟨classify isFatalErrorStatusDeadline (.error (onWire .ctxDeadline (str "context deadline exceeded"))), true, 1⟩),
      (pC, ok 3)]).1 = .ok [1, 3] ∧
    (request listM 5 4 [(pA, ok 1),
      (pB, ⟨classify isFatalErrorStatusDeadline (.error (onWire .ctxDeadline (str "context deadline exceeded"))), true, 1⟩),
      (pC, ok 3)]).2.2 = [pA, pC] := ⟨rfl, rfl⟩

/-- UNFIXED code, witness 1: a reply that does not decode is treated as the handler's own error:
    the request fails and the other plugins' contributions are lost. -/
theorem unfixed_undecodable_reply_vetoes :
    (request listM 5 4 [(pA, ok 1),
        (pB, ⟨classify isFatalError (.error .undecodable), true, 1⟩), (pC, ok 3)]).1
      = .error (.veto pB []) ∧
    (request listM 5 4 [(pA, ok 1),
        (pB, ⟨classify isFatalErrorFixed (.error .undecodable), true, 1⟩), (pC, ok 3)]).1
      = .ok [1, 3] := ⟨rfl, rfl⟩

/-- UNFIXED code, witness 2: a connection cut in the middle of a frame (when the multiplexer's
    `unexpected EOF` wins the race to the caller) fails the request as well. -/
theorem unfixed_truncated_frame_vetoes :
    (request listM 5 4 [(pA, ok 1),
        (pB, ⟨classify isFatalError (.error .truncatedFrame), true, 1⟩), (pC, ok 3)]).1
      = .error (.veto pB []) ∧
    (request listM 5 4 [(pA, ok 1),
        (pB, ⟨classify isFatalErrorFixed (.error .truncatedFrame), true, 1⟩), (pC, ok 3)]).1
      = .ok [1, 3] := ⟨rfl, rfl⟩

end Nri.Props.C07
