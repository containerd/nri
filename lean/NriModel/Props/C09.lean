import NriModel.Lemmas.SyncChunkPolicy
import NriModel.Lemmas.SyncChunkTrace

/-!
Property C09 — synchronisation delivers the runtime's complete state however it must be
split. Only the property theorems and the examples showing their hypotheses satisfiable
live here; the model is `NriModel/SyncChunk.lean`, helper lemmas `NriModel/Lemmas/SyncChunk*.lean`.

Sender theorems are about the REPAIRED loop (`Env.clamp = true`, any policy with
`Shrinks m`; `C09_policy` shows the patched `recalcObjsPerSyncMsg` is such a policy). The
code as it stands at the pinned commit is transcribed as `clamp = false` with
`policyUnfixed`; `unfixed_panics` and `unfixed_livelocks` evaluate it on the two witnesses.
-/

namespace Nri.Props.C09

open Nri Nri.SyncChunk

variable {α β υ ε σ : Type}

/-- Whatever the stub had accumulated is irrelevant for a fresh session
    (`RState.init`): for chunks flagged as the protocol says (all but the last `more`), the
    plugin's handler is called exactly once, with the concatenation of all pods and of all
    containers in order; every `more` chunk is answered by an empty echo, and the answer to the
    last chunk is the handler's own updates (or its error); the accumulator is clear again. -/
theorem C09_receiver (f : List α → List β → Except ε (List υ)) (chunks : List (Chunk α β))
    (h : WellFlagged chunks) :
    stubRun (some f) RState.init chunks =
      (⟨none, [(allPods chunks, allCtrs chunks)]⟩,
       List.replicate (chunks.length - 1) (.ok ⟨[], true⟩) ++
         [match f (allPods chunks) (allCtrs chunks) with
          | .ok u => .ok ⟨u, false⟩
          | .error e => .error e]) :=
  stubRun_wellFlagged f chunks RState.init h

example : WellFlagged [(⟨[1, 2], [10], true⟩ : Chunk Nat Nat), ⟨[], [11, 12], true⟩, ⟨[3], [], false⟩] := by
  simp [WellFlagged]

/-- Two sessions in a row (a plugin that re-registers): the second starts from a clear
    accumulator, so each session is delivered on its own. -/
theorem C09_receiver_sessions (f : List α → List β → Except ε (List υ))
    (a b : List (Chunk α β)) (ha : WellFlagged a) (hb : WellFlagged b) :
    (stubRun (some f) (stubRun (some f) RState.init a).1 b).1 =
      ⟨none, [(allPods a, allCtrs a), (allPods b, allCtrs b)]⟩ := by
  rw [stubRun_wellFlagged f a RState.init ha, stubRun_wellFlagged f b _ hb]
  rfl

/-- One stub object, restarted. Whatever an earlier session did —
    any chunks at all, in particular a split synchronisation abandoned after some `more` chunks
    had been collected — once `close` has run, a later well-flagged session calls the handler
    exactly once more, with exactly that session's pods and containers: nothing collected before
    the restart reaches it. -/
theorem C09_receiver_restart (f : List α → List β → Except ε (List υ))
    (earlier : List (Chunk α β)) (st : RState α β) (b : List (Chunk α β)) (hb : WellFlagged b) :
    let st1 := stubClose true (stubRun (some f) st earlier).1
    (stubRun (some f) st1 b).1 = ⟨none, st1.calls ++ [(allPods b, allCtrs b)]⟩ ∧
      st1.calls = (stubRun (some f) st earlier).1.calls := by
  intro st1
  rw [stubRun_wellFlagged f b st1 hb]
  exact ⟨rfl, rfl⟩

/-- An abandoned split session (only `more` chunks) makes no handler call at all, so after the
    restart the log holds exactly the one call of the new session. -/
theorem C09_receiver_restart_abandoned (f : List α → List β → Except ε (List υ))
    (a : List (Chunk α β)) (ha : ∀ c ∈ a, c.more = true) (b : List (Chunk α β))
    (hb : WellFlagged b) :
    stubSessions true (some f) RState.init [a, b] = ⟨none, [(allPods b, allCtrs b)]⟩ := by
  obtain ⟨h1, h2⟩ := C09_receiver_restart f a RState.init b hb
  simp only [stubSessions]
  rw [h1, h2, stubRun_more_calls f a RState.init ha]
  rfl

/-- The seeded defect in the model: a `close` that does not reset. The chunk collected in the
    abandoned session is delivered to the next session's handler in front of the new state. -/
theorem restart_without_reset_leaks :
    (stubSessions false (some fun (_ : List Nat) (_ : List Nat) => (.ok [] : Except Unit (List Unit)))
      RState.init [[⟨[0], [0, 1], true⟩], [⟨[0], [0], false⟩]]).calls = [([0, 0], [0, 1, 0])] := by
  decide

/-- A plugin that implements no `Synchronize`: every chunk is echoed, nothing is kept. -/
theorem C09_receiver_no_handler (chunks : List (Chunk α β)) (st : RState α β) :
    stubRun (none : Handler α β υ ε) st chunks = (st, chunks.map fun c => .ok ⟨[], c.more⟩) := by
  induction chunks generalizing st with
  | nil => rfl
  | cons c rest ih =>
    rw [stubRun_cons, stubRPC, ih]
    rfl

/-- Any plan the nondeterministic specification admits delivers exactly the
    supplied pods and containers, each once and in order, is flagged so that the receiver
    theorem applies, every message fits, and no `more` message is empty. -/
theorem C09_plan (fits : Chunk α β → Prop) (pods : List α) (ctrs : List β)
    (pl : List (Chunk α β)) (h : ValidPlan fits pods ctrs pl) :
    allPods pl = pods ∧ allCtrs pl = ctrs ∧ WellFlagged pl ∧ (∀ c ∈ pl, fits c) ∧
      (∀ c ∈ pl, c.more = true → 0 < c.count) := by
  induction h with
  | last ps cs hf =>
    exact ⟨List.append_nil _, List.append_nil _, rfl, List.forall_mem_singleton.mpr hf,
      List.forall_mem_singleton.mpr nofun⟩
  | more ps cs n k rest hn hk hpos hf hv ih =>
    obtain ⟨h1, h2, h3, h4, h5⟩ := ih
    refine ⟨?_, ?_, ?_, List.forall_mem_cons.mpr ⟨hf, h4⟩, List.forall_mem_cons.mpr ⟨fun _ => ?_, h5⟩⟩
    · rw [allPods, h1, List.take_append_drop]
    · rw [allCtrs, h2, List.take_append_drop]
    · cases hv with
      | last => exact ⟨rfl, h3⟩
      | more => exact ⟨rfl, h3⟩
    · simp only [Chunk.count, List.length_take]
      omega

example : ValidPlan (fun _ => true = true) [1, 2, 3] [10, 11, 12]
    [(⟨[1, 2], [10], true⟩ : Chunk Nat Nat), ⟨[], [11, 12], true⟩, ⟨[3], [], false⟩] :=
  accepts_sound (fun _ => true) (by decide)

/-- The executable acceptor the driver runs decides exactly `ValidPlan`. -/
theorem C09_accepts_iff [DecidableEq α] [DecidableEq β] (fits : Chunk α β → Bool)
    (pods : List α) (ctrs : List β) (pl : List (Chunk α β)) :
    accepts fits pods ctrs pl = true ↔ ValidPlan (fun c => fits c = true) pods ctrs pl := by
  refine ⟨accepts_sound fits, fun h => ?_⟩
  induction h with
  | last ps cs hf => simp [accepts, hf]
  | more ps cs n k rest hn hk hpos hf hv ih =>
    cases rest with
    | nil => cases hv
    | cons c' r' => simp [accepts, hn, hk, hpos, hf, ih, Nat.min_eq_left]

/-- Plan and receiver together: a valid plan fed to the stub calls the handler exactly once
    with exactly the supplied state. -/
theorem C09_plan_delivers (fits : Chunk α β → Prop) (f : List α → List β → Except ε (List υ))
    (pods : List α) (ctrs : List β) (pl : List (Chunk α β)) (h : ValidPlan fits pods ctrs pl) :
    (stubRun (some f) RState.init pl).1 = ⟨none, [(pods, ctrs)]⟩ := by
  obtain ⟨h1, h2, h3, _, _⟩ := C09_plan fits pods ctrs pl h
  rw [C09_receiver f pl h3, h1, h2]

/-- For every size oracle, limit, plugin end and every shrink policy that
    satisfies `Shrinks`, when the repaired `synchronize` returns successfully the messages
    it got through form a valid plan for the supplied state. -/
theorem C09_sender (E : Env α β υ ε σ) (m : Nat) (hc : E.clamp = true) (hπ : Shrinks m E.policy)
    (fuel : Nat) (w : σ) (pods : List α) (ctrs : List β) (u : List υ)
    (h : (synchronize E fuel w pods ctrs).out = .done u) :
    ValidPlan (fun c => E.size c ≤ E.limit) pods ctrs (plan (synchronize E fuel w pods ctrs).evs) :=
  (runs_plan (synchronize_runs E m hc hπ fuel w pods ctrs)).1 u h

/-- The repaired loop never evaluates an out-of-range slice expression
    (no panic, no exposure of slice capacity), and never sends a `more` message that carries
    nothing — in particular it cannot spin on empty messages. -/
theorem C09_no_fault (E : Env α β υ ε σ) (m : Nat) (hc : E.clamp = true) (hπ : Shrinks m E.policy)
    (fuel : Nat) (w : σ) (pods : List α) (ctrs : List β) :
    (synchronize E fuel w pods ctrs).out ≠ .fault ∧
      ∀ c ∈ plan (synchronize E fuel w pods ctrs).evs, c.more = true → 0 < c.count :=
  have h := synchronize_runs E m hc hπ fuel w pods ctrs
  ⟨runs_ne_fault h, (runs_plan h).2⟩

/-- `2·(|pods|+|containers|)+1` iterations always suffice: every
    iteration either gets at least one object through or strictly lowers the number of
    objects per message. -/
theorem C09_terminates (E : Env α β υ ε σ) (m : Nat) (hc : E.clamp = true)
    (hπ : Shrinks m E.policy) (fuel : Nat) (w : σ) (pods : List α) (ctrs : List β)
    (hf : fuelBound pods ctrs ≤ fuel) :
    (synchronize E fuel w pods ctrs).out ≠ .outOfFuel := by
  intro h
  have hfin := synchronize_finished E m hc hπ fuel w pods ctrs hf
  rw [h] at hfin
  exact hfin

/-- Fuel is only a proof device: with any two amounts of fuel at or above the bound the
    repaired loop performs the very same run (so the statements below are about THE run). -/
theorem C09_fuel_irrelevant (E : Env α β υ ε σ) (m : Nat) (hc : E.clamp = true)
    (hπ : Shrinks m E.policy) (w : σ) (pods : List α) (ctrs : List β) (k : Nat) :
    synchronize E (fuelBound pods ctrs + k) w pods ctrs =
      synchronize E (fuelBound pods ctrs) w pods ctrs :=
  run_mono E _ k w _ (C09_terminates E m hc hπ _ w pods ctrs (Nat.le_refl _))

/-- The repaired loop ends with "failed to synchronize plugin with split
    messages" only after the transport refused a message of at most `m` objects (consecutive
    pods and consecutive containers of the state) — or after the plugin end answered with an
    error carrying the status ResourceExhausted, which `recalcObjsPerSyncMsg` reports with the
    same text. Contrapositive: a state in which every such small message fits is always
    synchronised unless the plugin end itself fails. -/
theorem C09_complete (E : Env α β υ ε σ) (m : Nat) (hc : E.clamp = true) (hπ : Shrinks m E.policy)
    (hlim : 0 < E.limit) (fuel : Nat) (w : σ) (pods : List α) (ctrs : List β)
    (h : (synchronize E fuel w pods ctrs).out = .failed .tooLarge) :
    (∃ c : Chunk α β, c.pods <:+: pods ∧ c.ctrs <:+: ctrs ∧ c.count ≤ m ∧ E.limit < E.size c) ∨
    (∃ c : Chunk α β, Ev.errored c ∈ (synchronize E fuel w pods ctrs).evs) :=
  run_tooLarge hπ hlim (synchronize_runs E m hc hπ fuel w pods ctrs)
    (List.suffix_refl _) (List.suffix_refl _) h

/-- The property itself: sender and receiver composed, behind a transport that also limits the
    REPLY. The repaired sender talking to the stub, with enough fuel:
    either it gives up on its own before the plugin's handler was ever called (and then a
    message of at most `m` consecutive objects exceeds the limit), or the handler was called
    exactly once, with exactly the supplied pods and containers in the runtime's order, and
    what `synchronize` returns is `wireOutcome`: the handler's updates if the reply fits under
    the transport's limit; a failure (the request deadline) if the reply is larger and gets
    dropped; the handler's error otherwise. The sender never mistakes the stub for a plugin
    that cannot take split requests, never faults and never runs on. -/
theorem C09_delivery (E : Env α β υ (WireErr ε) (RState α β)) (m : Nat) (hc : E.clamp = true)
    (hπ : Shrinks m E.policy) (hlim : 0 < E.limit) (rs : Reply υ → Nat) (rl : Nat)
    (hecho : rs ⟨[], true⟩ ≤ rl) (hx : ε → Bool) (f : List α → List β → Except ε (List υ))
    (hpeer : E.peer = wireStub rs rl (some f)) (hex : E.exhausted = wireExhausted hx)
    (fuel : Nat) (pods : List α) (ctrs : List β) (hf : fuelBound pods ctrs ≤ fuel) :
    let r := synchronize E fuel RState.init pods ctrs
    (r.out = .failed .tooLarge ∧ r.world.calls = [] ∧
      ∃ c : Chunk α β, c.pods <:+: pods ∧ c.ctrs <:+: ctrs ∧ c.count ≤ m ∧ E.limit < E.size c) ∨
    (r.world.calls = [(pods, ctrs)] ∧ r.world.acc = none ∧
      r.out = wireOutcome rs rl hx f pods ctrs) := by
  intro r
  rcases run_wire hπ hlim hecho hpeer hex
    (synchronize_runs E m hc hπ fuel RState.init pods ctrs) rfl rfl with
    h | ⟨h1, _⟩ | ⟨h1, h2, h3⟩
  · exact .inl h
  · exact absurd h1 (C09_terminates E m hc hπ fuel RState.init pods ctrs hf)
  · exact .inr ⟨h2, h3, h1⟩

/-- The positive half of `C09_delivery` with its hypotheses spelled out: when every
    message of at most `m` consecutive objects fits, the handler succeeds and its reply fits
    under the transport's limit, `synchronize` returns exactly the handler's updates, after
    exactly one call with exactly the supplied state. -/
theorem C09_updates_reach_runtime (E : Env α β υ (WireErr ε) (RState α β)) (m : Nat)
    (hc : E.clamp = true) (hπ : Shrinks m E.policy) (hlim : 0 < E.limit) (rs : Reply υ → Nat)
    (rl : Nat) (hecho : rs ⟨[], true⟩ ≤ rl) (hx : ε → Bool)
    (f : List α → List β → Except ε (List υ))
    (hpeer : E.peer = wireStub rs rl (some f)) (hex : E.exhausted = wireExhausted hx)
    (fuel : Nat) (pods : List α) (ctrs : List β) (hf : fuelBound pods ctrs ≤ fuel)
    (hsmall : ∀ c : Chunk α β, c.pods <:+: pods → c.ctrs <:+: ctrs → c.count ≤ m → E.size c ≤ E.limit)
    (u : List υ) (hu : f pods ctrs = .ok u) (hfit : rs ⟨u, false⟩ ≤ rl) :
    let r := synchronize E fuel RState.init pods ctrs
    r.out = .done u ∧ r.world.calls = [(pods, ctrs)] := by
  intro r
  rcases C09_delivery E m hc hπ hlim rs rl hecho hx f hpeer hex fuel pods ctrs hf with
    ⟨_, _, c, h1, h2, h3, h4⟩ | ⟨h1, _, h3⟩
  · exact absurd (hsmall c h1 h2 h3) (Nat.not_le_of_lt h4)
  · exact ⟨by rw [h3, wireOutcome_ok hx hu, if_pos hfit], h1⟩

/-- The clean-failure half for the reply: when the handler's updates do
    not fit into one reply under the transport's limit, `synchronize` does NOT succeed — it ends
    with an error (in Go: the request deadline, the reply having been dropped by the stub's ttrpc
    server) and the registering plugin is not activated; the handler may have been called (once,
    with the full state) but never with anything else. -/
theorem C09_reply_too_large {π : Type} (E : Env α β υ (WireErr ε) (RState α β)) (m : Nat)
    (hc : E.clamp = true) (hπ : Shrinks m E.policy) (hlim : 0 < E.limit) (rs : Reply υ → Nat)
    (rl : Nat) (hecho : rs ⟨[], true⟩ ≤ rl) (hx : ε → Bool)
    (f : List α → List β → Except ε (List υ))
    (hpeer : E.peer = wireStub rs rl (some f)) (hex : E.exhausted = wireExhausted hx)
    (fuel : Nat) (pods : List α) (ctrs : List β) (hf : fuelBound pods ctrs ≤ fuel)
    (u : List υ) (hu : f pods ctrs = .ok u) (hbig : rl < rs ⟨u, false⟩)
    (plugins : List π) (p : π) :
    let r := synchronize E fuel RState.init pods ctrs
    (∃ e, r.out = .failed e) ∧ activateExternal plugins p r.out = plugins ∧
      (r.world.calls = [] ∨ r.world.calls = [(pods, ctrs)]) := by
  intro r
  rcases C09_delivery E m hc hπ hlim rs rl hecho hx f hpeer hex fuel pods ctrs hf with
    ⟨h1, h2, _⟩ | ⟨h1, _, h3⟩
  · exact ⟨⟨_, h1⟩, by rw [h1]; rfl, .inl h2⟩
  · have : r.out = .failed (.peer .replyLost) := by
      rw [h3, wireOutcome_ok hx hu, if_neg (Nat.not_le_of_lt hbig)]
    exact ⟨⟨_, this⟩, by rw [this]; rfl, .inr h1⟩

/-- The same against a plugin without a `Synchronize` handler: no updates, nothing called. -/
theorem C09_delivery_no_handler (E : Env α β υ (WireErr ε) (RState α β)) (m : Nat)
    (hc : E.clamp = true) (hπ : Shrinks m E.policy) (rs : Reply υ → Nat) (rl : Nat)
    (hecho : ∀ b, rs ⟨[], b⟩ ≤ rl)
    (hpeer : E.peer = wireStub rs rl (none : Handler α β υ ε)) (fuel : Nat)
    (pods : List α) (ctrs : List β) (hf : fuelBound pods ctrs ≤ fuel) :
    let r := synchronize E fuel RState.init pods ctrs
    r.world = RState.init ∧ (r.out = .done [] ∨ r.out = .failed .tooLarge) := by
  intro r
  obtain ⟨h1, h2⟩ := run_noHandler hecho hpeer
    (synchronize_runs E m hc hπ fuel RState.init pods ctrs)
  exact ⟨h1, h2.imp_right fun h => h.resolve_right (C09_terminates E m hc hπ fuel RState.init pods ctrs hf)⟩

/-- The patched `recalcObjsPerSyncMsg` (exact arithmetic) is a policy the
    theorems above apply to, for every minimum of at least two objects per message. -/
theorem C09_policy (m : Nat) (hm : 2 ≤ m) : Shrinks m (policyFixed m) :=
  policyFixed_shrinks m hm

example : ∃ π, Shrinks 8 π := ⟨policyFixed 8, C09_policy 8 (by decide)⟩

/-- the patched Go code as transcribed, against the stub behind the transport -/
def patchedEnv (size : Chunk α β → Nat) (limit : Nat) (rs : Reply υ → Nat) (rl : Nat)
    (hx : ε → Bool) (f : List α → List β → Except ε (List υ)) :
    Env α β υ (WireErr ε) (RState α β) :=
  { size := size, limit := limit, policy := policyFixed 8, clamp := true,
    peer := wireStub rs rl (some f), exhausted := wireExhausted hx }

/-- The property for the patched Go code as transcribed (`clamp`, `policyFixed 8`),
    for every size oracle and limit for requests and for replies, against the stub with any
    handler: the handler is called exactly once with exactly the supplied state and
    `synchronize` returns `wireOutcome` (its updates when the reply fits; a failure when the
    reply is too large to be sent back; its error) — or the sender gave up before any call, and
    then some message of at most 8 consecutive objects exceeds the limit. -/
theorem C09_patched (size : Chunk α β → Nat) (limit : Nat) (hlim : 0 < limit)
    (rs : Reply υ → Nat) (rl : Nat) (hecho : rs ⟨[], true⟩ ≤ rl) (hx : ε → Bool)
    (f : List α → List β → Except ε (List υ)) (pods : List α) (ctrs : List β) :
    let r := synchronize (patchedEnv size limit rs rl hx f) (fuelBound pods ctrs) RState.init pods ctrs
    (r.out = .failed .tooLarge ∧ r.world.calls = [] ∧
        ∃ c : Chunk α β, c.pods <:+: pods ∧ c.ctrs <:+: ctrs ∧ c.count ≤ 8 ∧ limit < size c) ∨
    (r.world.calls = [(pods, ctrs)] ∧ r.world.acc = none ∧
      r.out = wireOutcome rs rl hx f pods ctrs) :=
  C09_delivery (patchedEnv size limit rs rl hx f) 8 rfl (C09_policy 8 (by decide)) hlim rs rl hecho
    hx f rfl rfl (fuelBound pods ctrs) pods ctrs (Nat.le_refl _)

/-- replies measured by their number of updates, at most 3 per reply: the echo fits -/
example : (fun (r : Reply Nat) => r.update.length) ⟨[], true⟩ ≤ 3 := by decide

/-- Concretely: 2 pods, 3 containers, everything fits into one
    request; the handler answers with 4 updates where the transport carries 3. The handler has
    been called once with the whole state, the sender ends with the lost-reply error, nothing
    comes back. With 3 updates they all come back. -/
theorem reply_too_large_witness :
    let big := synchronize (patchedEnv (plainSize id id) 4000 (fun r => r.update.length) 3
      (fun (_ : Unit) => false) (fun _ (cs : List Nat) => .ok (cs ++ [7]))) 20 RState.init [1, 1] [5, 5, 5]
    let ok := synchronize (patchedEnv (plainSize id id) 4000 (fun r => r.update.length) 3
      (fun (_ : Unit) => false) (fun _ (cs : List Nat) => .ok cs)) 20 RState.init [1, 1] [5, 5, 5]
    big.out = .failed (.peer .replyLost) ∧ big.world.calls = [([1, 1], [5, 5, 5])] ∧
      ok.out = .done [5, 5, 5] ∧ ok.world.calls = [([1, 1], [5, 5, 5])] := by
  decide +kernel

/-! ### Trace acceptance (what ties the sender model to the real executions) -/

/-- `accepts tr → Property tr`: a list of attempts the acceptor takes
    for a successful synchronisation of the supplied state got a valid plan through —
    whatever counts the real sender chose after each refusal. -/
theorem C09_trace_sound [DecidableEq α] [DecidableEq β] (fitsOk : Chunk α β → Bool)
    (rejOk : Chunk α β → Nat → Bool) (m : Nat) (pods : List α) (ctrs : List β)
    (evs : List (Ev α β υ))
    (h : acceptsTrace fitsOk rejOk m .done (SState.init pods ctrs) evs = true) :
    ValidPlan (fun c => fitsOk c = true) pods ctrs (plan evs) :=
  acceptsTrace_sound fitsOk rejOk m evs _ (good_init pods ctrs) h

/-- The acceptor admits every behaviour of the model: each finished
    run of the repaired loop, for every policy with `Shrinks m`, is accepted (so a rejected
    real execution is one the model cannot produce under any such policy). -/
theorem C09_trace_complete [DecidableEq α] [DecidableEq β] (E : Env α β υ ε σ) (m : Nat)
    (hc : E.clamp = true) (hπ : Shrinks m E.policy) (hlim : 0 < E.limit) (fuel : Nat) (w : σ)
    (pods : List α) (ctrs : List β) (hf : fuelBound pods ctrs ≤ fuel) :
    acceptsTrace (fun c => decide (E.size c ≤ E.limit))
      (fun c len => decide (E.limit < len) && decide (len = E.size c)) m
      (endOf (synchronize E fuel w pods ctrs).out) (SState.init pods ctrs)
      (synchronize E fuel w pods ctrs).evs = true :=
  run_accepted hπ hlim (synchronize_runs E m hc hπ fuel w pods ctrs)
    (synchronize_finished E m hc hπ fuel w pods ctrs hf)

/-- With enough fuel the repaired `synchronize` ends in exactly one of
    two ways — it returns updates or it returns an error (it neither panics nor runs on) —
    and when it returns an error the registering plugin is not added to the active list,
    which is otherwise untouched. -/
theorem C09_clean_fail {π : Type} (E : Env α β υ ε σ) (m : Nat) (hc : E.clamp = true)
    (hπ : Shrinks m E.policy) (fuel : Nat) (w : σ) (pods : List α) (ctrs : List β)
    (hf : fuelBound pods ctrs ≤ fuel) (plugins : List π) (p : π) :
    let o := (synchronize E fuel w pods ctrs).out
    ((∃ u, o = .done u) ∨ (∃ e, o = .failed e)) ∧
      (∀ e, o = .failed e → activateExternal plugins p o = plugins) ∧
      (∀ u, o = .done u → activateExternal plugins p o = plugins ++ [p]) := by
  intro o
  have hfin : finished o := synchronize_finished E m hc hπ fuel w pods ctrs hf
  refine ⟨?_, fun e he => by rw [he]; rfl, fun u hu => by rw [hu]; rfl⟩
  cases ho : o with
  | done u => exact .inl ⟨u, rfl⟩
  | failed e => exact .inr ⟨e, rfl⟩
  | fault => exact (ho ▸ hfin).elim
  | outOfFuel => exact (ho ▸ hfin).elim

/-- Activation implies delivery: if the registering plugin ends up in
    the active list, then its handler has been called exactly once, with exactly the supplied
    state, it succeeded, its reply fitted under the transport's limit and `synchronize` returned
    exactly its updates. -/
theorem C09_activated_delivered {π : Type} (E : Env α β υ (WireErr ε) (RState α β)) (m : Nat)
    (hc : E.clamp = true) (hπ : Shrinks m E.policy) (hlim : 0 < E.limit) (rs : Reply υ → Nat)
    (rl : Nat) (hecho : rs ⟨[], true⟩ ≤ rl) (hx : ε → Bool)
    (f : List α → List β → Except ε (List υ))
    (hpeer : E.peer = wireStub rs rl (some f)) (hex : E.exhausted = wireExhausted hx)
    (fuel : Nat) (pods : List α) (ctrs : List β) (hf : fuelBound pods ctrs ≤ fuel)
    (plugins : List π) (p : π)
    (hact : activateExternal plugins p (synchronize E fuel RState.init pods ctrs).out ≠ plugins) :
    let r := synchronize E fuel RState.init pods ctrs
    r.world.calls = [(pods, ctrs)] ∧ r.world.acc = none ∧
      ∃ u, f pods ctrs = .ok u ∧ rs ⟨u, false⟩ ≤ rl ∧ r.out = .done u := by
  intro r
  obtain ⟨u, hu⟩ := activateExternal_ne hact
  rcases C09_delivery E m hc hπ hlim rs rl hecho hx f hpeer hex fuel pods ctrs hf with
    ⟨h1, _, _⟩ | ⟨h1, h2, h3⟩
  · cases h1.symm.trans hu
  · obtain ⟨hfo, hfit⟩ := wireOutcome_eq_done (h3.symm.trans hu)
    exact ⟨h1, h2, u, hfo, hfit, hu⟩

/-- `startPlugins.syncPlugins` keeps EXACTLY the plugins whose
    synchronisation succeeded, in their order, and hands the runtime's `SyncFn` EXACTLY the
    concatenation of their updates, in that order. -/
theorem C09_preinstalled_exact {π : Type} (rs : List (π × Outcome υ ε)) :
    activatePreinstalled rs = (keptOf rs, updOf rs) := by
  induction rs with
  | nil => rfl
  | cons x rest ih =>
    obtain ⟨q, o⟩ := x
    cases o <;> simp [activatePreinstalled, keptOf, updOf, ih]

example : activatePreinstalled [("a", (Outcome.done [1, 2] : Outcome Nat Unit)),
    ("b", .failed .tooLarge), ("c", .done [3])] = (["a", "c"], [1, 2, 3]) := by decide

/-- Pre-installed plugins (`startPlugins.syncPlugins`): a kept plugin is one whose
    synchronisation succeeded (a consequence of `C09_preinstalled_exact`). -/
theorem C09_clean_fail_preinstalled {π : Type} (rs : List (π × Outcome υ ε)) (p : π) :
    p ∈ (activatePreinstalled rs).1 → ∃ u, (p, Outcome.done u) ∈ rs := by
  rw [C09_preinstalled_exact]
  intro h
  induction rs with
  | nil => cases h
  | cons x rest ih =>
    obtain ⟨q, o⟩ := x
    have tail : p ∈ keptOf rest → ∃ u, (p, Outcome.done u) ∈ (q, o) :: rest :=
      fun h => (ih h).imp fun _ hu => List.mem_cons_of_mem _ hu
    cases o with
    | done u =>
      rcases List.mem_cons.mp h with rfl | h
      · exact ⟨u, List.mem_cons_self ..⟩
      · exact tail h
    | _ => exact tail h

/-! ### The code as it stands: two witnesses

Objects are their own encoded sizes (abstract units: think KB), the oracle is plainly
additive, the limit is 4000, the plugin end is the stub model with a handler that
returns no updates. `fixed = false` is the loop and `recalcObjsPerSyncMsg` of the pinned
commit; `fixed = true` is the patched code. -/

def witEnv (fixed : Bool) : Env Nat Nat Unit Unit (RState Nat Nat) where
  size := plainSize id id
  limit := 4000
  policy := if fixed then policyFixed 8 else policyUnfixed 8
  clamp := fixed
  peer := stubRPC (some fun _ _ => .ok [])

/-- 3 small pods and 12 containers of 1001 units (≈ 1 MB each) -/
def w1pods : List Nat := [1, 1, 1]
def w1ctrs : List Nat := List.replicate 12 1001

/-- 2 small pods and 40 containers of 300 units (≈ 300 KB each) -/
def w2pods : List Nat := [1, 1]
def w2ctrs : List Nat := List.replicate 40 300

/-- The loop as it stands: the whole state is refused, the shares round
    to 0 pods / 3 containers, fewer than 8, so the counts become 4/4 — and `podsToSend[:4]`
    is evaluated on 3 pods. Go panics (`slice bounds out of range [:4] with capacity 3`). -/
theorem unfixed_panics :
    (synchronize (witEnv false) 100 RState.init w1pods w1ctrs).out = .fault := by decide

/-- The patched code on the same state ends cleanly: 3 pods + 4 containers is still too
    large, 7 ≤ 8 objects, so it gives up with an error. -/
theorem fixed_no_panic :
    (synchronize (witEnv true) 100 RState.init w1pods w1ctrs).out = .failed .tooLarge := by decide

/-- the state the unrepaired loop reaches on the second witness after 5 iterations: both
    pods still to send, zero per message, and the stub holding the 40 containers -/
def w2stuck : RState Nat Nat × SState Nat Nat :=
  (⟨some ([], w2ctrs), []⟩, ⟨w2pods, [], 0, 0⟩)

/-- The loop as it stands: the pods' share rounds down to zero, the
    containers go out in 13+13+13+1, and from then on every iteration sends
    `0 pods / 0 containers, more = true` and returns to the very same state: no amount of
    fuel ends it (in Go: until the request deadline expires), although 2 pods + 40 containers
    of this size are plainly transmissible. -/
theorem unfixed_livelocks :
    stateAfter (witEnv false) 5 RState.init (SState.init w2pods w2ctrs) = some w2stuck ∧
    step (witEnv false) w2stuck.1 w2stuck.2 =
      (w2stuck.1, [.sent ⟨[], [], true⟩ ⟨[], true⟩], .next w2stuck.2) ∧
    ∀ n, (synchronize (witEnv false) (5 + n) RState.init w2pods w2ctrs).out = .outOfFuel ∧
      plan (synchronize (witEnv false) (5 + n) RState.init w2pods w2ctrs).evs =
        [⟨[], List.replicate 13 300, true⟩, ⟨[], List.replicate 13 300, true⟩,
         ⟨[], List.replicate 13 300, true⟩, ⟨[], [300], true⟩] ++
        List.replicate n ⟨[], [], true⟩ := by
  have h1 : stateAfter (witEnv false) 5 RState.init (SState.init w2pods w2ctrs) = some w2stuck := by
    decide +kernel
  have h2 : step (witEnv false) w2stuck.1 w2stuck.2 =
      (w2stuck.1, [.sent ⟨[], [], true⟩ ⟨[], true⟩], .next w2stuck.2) := by decide +kernel
  refine ⟨h1, h2, ?_⟩
  intro n
  obtain ⟨e1, e2, _⟩ := run_add (witEnv false) 5 n RState.init (SState.init w2pods w2ctrs) _ _ h1
  have hs : run (witEnv false) n ⟨some ([], w2ctrs), []⟩ ⟨w2pods, [], 0, 0⟩ = _ :=
    run_stuck (witEnv false) w2stuck.1 w2stuck.2 _ h2 n
  unfold synchronize
  rw [e1, e2, hs]
  refine ⟨rfl, ?_⟩
  have hp : plan (run (witEnv false) 5 RState.init (SState.init w2pods w2ctrs)).evs =
      [⟨[], List.replicate 13 300, true⟩, ⟨[], List.replicate 13 300, true⟩,
       ⟨[], List.replicate 13 300, true⟩, ⟨[], [300], true⟩] := by decide +kernel
  rw [plan_append, hp, plan_replicate_sent]

/-- The patched code on the same state: every pod and container is delivered in five
    messages, none of them empty. -/
theorem fixed_no_livelock :
    (synchronize (witEnv true) 100 RState.init w2pods w2ctrs).out = .done [] ∧
    (synchronize (witEnv true) 100 RState.init w2pods w2ctrs).world.calls = [(w2pods, w2ctrs)] := by
  decide +kernel

end Nri.Props.C09
