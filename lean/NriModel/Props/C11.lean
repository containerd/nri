import NriModel.Lemmas.MuxStream
import NriModel.Lemmas.MuxTrace
import NriModel.Lemmas.MuxSys
import NriModel.Lemmas.MuxWriter
import NriModel.Lemmas.MuxOpen
/-!
Property theorems for C11 — the multiplexer fails stop: no gaps after errors, nothing hangs
after close.  Model: `NriModel/Mux.lean` (one mux end as a transition system; `step s ev =
none` means "this operation with this result does not happen / does not return").

Not proved here (measured by the fault campaign of the check): that blocked goroutines are
actually woken, and wall-clock promptness — the model has no Go scheduler.
-/
namespace Nri.Props.C11
open Nri.Mux

/-- Truncating the trunk at any byte offset: the reader sees a prefix of the frames. -/
theorem C11_prefix (s : Bytes) (k : Nat) : (decode (s.take k)).1 <+: (decode s).1 :=
  decode_prefix_mono (List.take_prefix k s)

/-- … hence on every connection a prefix of the frames addressed to it, and a prefix of
    the byte stream. -/
theorem C11_truncated_stream (s : Bytes) (k id : Nat) :
    payloadsOf id (decode (s.take k)).1 <+: payloadsOf id (decode s).1 ∧
    bytesDelivered id (decode (s.take k)).1 <+: bytesDelivered id (decode s).1 :=
  ⟨payloadsOf_prefix (C11_prefix s k), flatten_prefix (payloadsOf_prefix (C11_prefix s k))⟩

/-- The frame-at-a-time reader of the two-ended model used by the correspondence check
    (`decodeOne`, `MuxSys.lean`) is the `decode` of these theorems. -/
theorem C11_reader_is_decode (s : Bytes) :
    decode s = match decodeOne s with
      | some (f, rest) => (f :: (decode rest).1, (decode rest).2)
      | none => ([], s) :=
  decode_eq_decodeOne s

/-- Nothing is damaged or invented: the decoded frames followed by the incomplete tail
    re-encode to exactly the bytes that arrived. -/
theorem C11_decode_sound (s : Bytes) : encodeFrames (decode s).1 ++ (decode s).2 = s :=
  decode_sound s

example : (decode ([0, 0, 0, 1, 0, 0, 0, 2, 7, 8, 0, 0, 0, 1, 0, 0, 0, 1, 9].take 14)).1 =
    [⟨1, [7, 8]⟩] := by simp [decode, be32]

/-- Which error the reader records when the trunk ends at the incomplete tail `t`
    (transcribed from `io.ReadFull`): clean end or end right after a header ⇒ EOF; inside a
    header ⇒ header error; inside a payload ⇒ payload error. -/
theorem C11_reader_end (t : Bytes) :
    (t.length = 0 ∨ t.length = 8 → readerEnd t = .eof) ∧
    (0 < t.length ∧ t.length < 8 → readerEnd t = .hdr) ∧
    (8 < t.length → readerEnd t = .payload) := by
  refine ⟨fun h => ?_, fun h => ?_, fun h => ?_⟩
  · cases h with
    | inl h => rw [readerEnd, if_pos h]
    | inr h => rw [readerEnd, if_neg (by omega), if_neg (by omega), if_pos h]
  · rw [readerEnd, if_neg (by omega), if_pos h.2]
  · rw [readerEnd, if_neg (by omega), if_neg (by omega), if_neg (by omega)]

/-- No gap, no duplicate, no reordering under any failure: in EVERY run of a mux end — any
    interleaving of reader deliveries, queue overflow at any position, reader failure, Close
    of the mux or of single connections at any step, Reads, Writes, re-Opens — what Read has
    handed out on a connection object is a prefix of the frames the reader routed to its id
    since the object was opened.  (Guard: reader buffers at least as long as the frames.) -/
theorem C11_no_gap (cfg : Cfg) (tr : List Ev) (s : MuxSt) (hg : bigBuffers tr = true)
    (hr : run (MuxSt.init cfg) tr = some s) (h : Nat) (c : Conn) (hc : s.objs[h]? = some c) :
    received h tr <+: (payloadsOf c.id (delivered tr)).drop c.base := by
  obtain ⟨ho, hrc⟩ := run_init_obj hg hr hc
  rw [← hrc]
  exact (ho.split ▸ List.prefix_append c.rcvd c.queue).trans ho.got_pre

/-- The usual case — the connection is opened before the reader has routed anything to its
    id (both ends open their connections before traffic): received ⊑ sent. -/
theorem C11_no_gap_opened_first (cfg : Cfg) (pre post : List Ev) (id h : Nat) (s : MuxSt)
    (hg : bigBuffers (pre ++ Ev.openNew id h :: post) = true)
    (hr : run (MuxSt.init cfg) (pre ++ Ev.openNew id h :: post) = some s)
    (hfirst : countFor id (delivered pre) = 0) :
    received h (pre ++ Ev.openNew id h :: post)
      <+: payloadsOf id (delivered (pre ++ Ev.openNew id h :: post)) := by
  obtain ⟨c, hc, hid, hbase⟩ := obj_of_open hr
  have := C11_no_gap cfg _ s hg hr h c hc
  rwa [hid, hbase, hfirst, List.drop_zero] at this

/-- End to end under truncation: the sender's writes `ws` (any order of whole writes), the
    trunk cut at any byte `k`, the receiving end running in any way on the frames that got
    through (`delivered tr` is a prefix of them): the bytes read on a connection opened
    before traffic are a prefix of the bytes written to its id. -/
theorem C11_end_to_end (cfg : Cfg) (hmp : 0 < cfg.mp) (hmp32 : cfg.mp < 2 ^ 32)
    (ws : List (Nat × Bytes)) (hids : ∀ w ∈ ws, w.1 < 2 ^ 32) (k : Nat)
    (pre post : List Ev) (id h : Nat) (s : MuxSt)
    (hg : bigBuffers (pre ++ Ev.openNew id h :: post) = true)
    (hr : run (MuxSt.init cfg) (pre ++ Ev.openNew id h :: post) = some s)
    (hfirst : countFor id (delivered pre) = 0) :
    ∃ trunk, encodeWrites cfg.mp ws = some trunk ∧
      (delivered (pre ++ Ev.openNew id h :: post) <+: (decode (trunk.take k)).1 →
        (received h (pre ++ Ev.openNew id h :: post)).flatten
          <+: ((ws.filter (·.1 == id)).map (·.2)).flatten) := by
  refine ⟨_, encodeWrites_eq cfg.mp hmp ws, fun hdel => ?_⟩
  have h1 := C11_no_gap_opened_first cfg pre post id h s hg hr hfirst
  have h2 := hdel.trans (C11_prefix (encodeFrames (specFrames cfg.mp ws)) k)
  rw [decode_encodeWrites cfg.mp hmp hmp32 ws hids] at h2
  have h3 := flatten_prefix (h1.trans (payloadsOf_prefix (id := id) h2))
  rwa [← bytesDelivered, bytesDelivered_specFrames] at h3

/-- The first error is latched: once `m.err` is set no step changes it, and every error
    any Read returned during a run equals the error latched at the end of the run — so all
    Reads on all connections of one mux report the same error. -/
theorem C11_error_latched (s s' : MuxSt) (tr : List Ev) (hr : run s tr = some s') :
    (∀ e, s.err = some e → s'.err = some e) ∧
    (∀ e ∈ readErrors tr, s'.err = some e) ∧
    (∀ e1 ∈ readErrors tr, ∀ e2 ∈ readErrors tr, e1 = e2) :=
  ⟨fun _ => run_err_mono hr, readErrors_latched hr, fun e1 h1 e2 h2 => Option.some.inj
    ((readErrors_latched hr e1 h1).symm.trans (readErrors_latched hr e2 h2))⟩

/-- A failure closes everything: after the reader fails (trunk error, truncation), after a
    queue overflows, after `Close`, or after a trunk write that failed part-way (a torn
    header or payload: `n ≠ 0` in `mux.write`), every connection object that exists — every
    connection `Open` ever returned, whether or not it is still registered under its id — is
    closed. -/
theorem C11_fail_closes_all (cfg : Cfg) (tr : List Ev) (s s' : MuxSt) (ev : Ev)
    (hg : bigBuffers tr = true) (hr : run (MuxSt.init cfg) tr = some s)
    (hopen : s.closed = false)
    (hev : (∃ e, ev = .readerFail e) ∨ (∃ f, ev = .overflow f) ∨ ev = .closeMux ∨
      (∃ h p, ev = .write h p (.errTrunk true)))
    (hs : step s ev = some s') :
    s'.closed = true ∧ ∀ (h : Nat) (c : Conn), s'.objs[h]? = some c → c.closed = true := by
  have hi := run_inv (Inv.init cfg) hg hr
  have key : ∀ {t : MuxSt}, Inv t → t.closed = false →
      (doClose t).closed = true ∧ ∀ h (c : Conn), (doClose t).objs[h]? = some c → c.closed = true :=
    fun ht hnc => ⟨doClose_closed _, fun _ _ hc => doClose_all_closed ht hnc hc⟩
  rcases hev with ⟨e, rfl⟩ | ⟨f, rfl⟩ | rfl | ⟨h0, p, rfl⟩ <;> cases Step.of_step hs
  -- one goal per `Step` rule for the event: `readerFail`, `overflow`, `closeMux`, and for
  -- `write … (.errTrunk true)` the two rules `writeTorn` and `writeFail`
  · exact key (hi.setError e) (by simpa using hopen)
  · exact key (hi.setError .overflow) (by simpa using hopen)
  · exact key hi hopen
  · exact key (hi.setError .wfail) (by simpa using hopen)
  · exact absurd rfl ‹_›  -- `writeFail` asks for `¬ true = true`

/-- Nothing hangs on a closed connection: Read returns (some result is enabled — the
    latched error, or, by Go's `select`, a frame still queued), Write returns EOF, Close of
    the connection and of the mux return; and closedness is permanent, so this stays true
    after any further run. -/
theorem C11_closed_returns (s : MuxSt) (h : Nat) (c : Conn) (hc : s.objs[h]? = some c)
    (hcl : c.closed = true) :
    (∀ blen bcap, blen ≤ bcap → ∃ s', step s (.read h blen bcap (.err (s.err.getD .eof))) = some s') ∧
    (∀ p, step s (.write h p .errEof) = some s) ∧
    (∃ s', step s (.closeConn h) = some s') ∧
    (∃ s', step s .closeMux = some s') ∧
    (∀ tr s', run s tr = some s' → ∃ c', s'.objs[h]? = some c' ∧ c'.closed = true) := by
  refine ⟨?_, ?_, ?_, ?_, ?_⟩
  · intro blen bcap hle
    exact ⟨setError s .eof, by simp [Mux.step, hc, hle, hcl]⟩
  · intro p; simp [Mux.step, hc, hcl]
  · exact ⟨_, by simp [Mux.step, hc]; rfl⟩
  · exact ⟨_, rfl⟩
  · intro tr s' hr
    obtain ⟨c', hc', st⟩ := run_stable hr hc
    exact ⟨c', hc', st.2.2 hcl⟩

/-- By contrast a Read on an OPEN connection with an empty queue is not enabled with any
    result — it blocks (so "returns" above is not vacuous). -/
theorem C11_open_empty_read_blocks (s : MuxSt) (h : Nat) (c : Conn) (hc : s.objs[h]? = some c)
    (hopen : c.closed = false) (hq : c.queue = []) (blen bcap : Nat) (r : ReadRes) :
    step s (.read h blen bcap r) = none := by
  cases r <;> simp [Mux.step, hc, hopen, hq]

/-- After the reader goroutine has returned, Reads hand out at most what was queued — at
    most `qlen` frames (in a run from the initial state under the buffer guard) — and from
    then on only the latched error. -/
theorem C11_drain_bound (cfg : Cfg) (tr tr' : List Ev) (s s' : MuxSt) (h : Nat)
    (hg : bigBuffers tr = true) (hr : run (MuxSt.init cfg) tr = some s)
    (hdone : s.readerDone = true) (hr' : run s tr' = some s') :
    (received h tr').length ≤ cfg.qlen := by
  have := run_drain (run_inv (Inv.init cfg) hg hr) h hr' hdone
  rwa [run_cfg hr] at this

/-- Close is idempotent: a second `Close` of the mux, or of a connection, changes nothing. -/
theorem C11_close_idempotent (s s' : MuxSt) :
    (step s .closeMux = some s' → step s' .closeMux = some s') ∧
    (∀ h s'', step s (.closeConn h) = some s' → step s' (.closeConn h) = some s'' → s'' = s') := by
  constructor
  · intro hs
    simp only [Mux.step] at hs ⊢
    cases hs
    by_cases h : s.closed = true <;> simp [doClose, h]
  · intro h s'' h1 h2
    cases Step.of_step h1 with
    | closeOwner hc _ =>
      have hlt := (List.getElem?_eq_some_iff.mp hc).1
      refine step_closeConn_stale (List.getElem?_set_self hlt) rfl (fun hl => ?_) h2
      rw [AList.lookup_erase_self] at hl; cases hl
    | closeStale hc hn =>
      have hlt := (List.getElem?_eq_some_iff.mp hc).1
      exact step_closeConn_stale (List.getElem?_set_self hlt) rfl hn h2

/-- Closing a stale handle again — a connection object that is closed and no longer owns its
    id, e.g. after `Open(id); Close; Open(id)` the first handle — is a no-op: the id table is
    untouched (the re-opened connection stays registered and keeps receiving) and no other
    connection object changes. -/
theorem C11_stale_close_harmless (s s' : MuxSt) (h : Nat) (c : Conn) (hc : s.objs[h]? = some c)
    (hclosed : c.closed = true) (hstale : AList.lookup s.cmap c.id ≠ some h)
    (hs : step s (.closeConn h) = some s') :
    s'.cmap = s.cmap ∧ s'.objs = s.objs ∧ s'.closed = s.closed ∧ s'.err = s.err := by
  cases step_closeConn_stale hc hclosed hstale hs
  exact ⟨rfl, rfl, rfl, rfl⟩

/-- … and concretely: open, close, re-open (a new object), close the first handle twice more
    — the second object still owns the id, still receives, and is closed by the mux close. -/
example : ∃ s c2, run (MuxSt.init { mp := 4, qlen := 2 })
      [.openNew 5 0, .closeConn 0, .openNew 5 1, .closeConn 0, .closeConn 0,
       .deliver ⟨5, [9]⟩, .read 1 8 8 (.data [9] 1), .closeMux] = some s ∧
    AList.lookup s.cmap 5 = some 1 ∧ s.objs[1]? = some c2 ∧ c2.closed = true ∧ c2.rcvd = [[9]] :=
  ⟨_, _, rfl, by decide, rfl, rfl, rfl⟩

/-- The listener wrapper hands its connection out exactly once, and once it is closed every
    Accept returns (the connection if it was never taken, then EOF); Close is idempotent. -/
theorem C11_listener (l : Lst) :
    (∀ r l', l.accept = some (r, l') → l'.next = false) ∧
    (l.next = false → ∀ r l', l.accept = some (r, l') → r = .eof) ∧
    (l.closed = true → l.accept ≠ none) ∧
    (l.close.2.closed = true ∧ l.close.2.close = (false, l.close.2)) ∧
    (l.closed = false ∧ l.next = false → l.accept = none) := by
  obtain ⟨conn, next, closed⟩ := l
  cases next <;> cases closed <;> simp [Lst.accept, Lst.close]


/-- Writer-side fail-stop, for EVERY sequence of `conn.Write`s (any ids, any chunking into frames
    with ids and lengths below 2^32) and every failure of any trunk call after any number of
    bytes: what a reader decodes from the trunk is exactly the frames that went out whole, from
    any prefix of the trunk a prefix of them — never a frame glued together from the pieces of
    two — and once the mux has closed no later Write adds a byte. (Repaired write loop: a failed
    payload write always closes the mux, its header being out already.) -/
theorem C11_writer_failstop (ops : List WOp) (hops : ∀ op ∈ ops, op.Bounded) :
    (decode (wrun true ops).out).1 = (wrun true ops).whole ∧
    (∀ k, (decode ((wrun true ops).out.take k)).1 <+: (wrun true ops).whole) ∧
    ((wrun true ops).closed = true → ∀ more, wrun true more (wrun true ops) = wrun true ops) := by
  have hinv := wrun_inv ops hops {} WInv.init
  refine ⟨hinv.decode_out, fun k => ?_, fun hc more => wrun_closed true more _ hc⟩
  have := C11_prefix (wrun true ops).out k
  rw [hinv.decode_out] at this
  exact this

/-- … in particular for the frames `mux.write` itself cuts its buffers into (any maximum payload
    `0 < mp < 2^32`, any connection ids below 2^32, any buffers, any failure points). -/
theorem C11_writer_failstop_chunked (mp : Nat) (hmp : 0 < mp) (hmp32 : mp < 4294967296)
    (ws : List (Nat × Bytes × Option (Nat × CallFail))) (hid : ∀ w ∈ ws, w.1 < 4294967296) (k : Nat) :
    let ops := ws.map fun w => WOp.ofWrite mp w.1 w.2.1 w.2.2
    (decode ((wrun true ops).out.take k)).1 <+: (wrun true ops).whole :=
  (C11_writer_failstop _ (by
    intro op hop
    simp only [List.mem_map] at hop
    obtain ⟨w, hw, rfl⟩ := hop
    exact WOp.ofWrite_bounded mp w.1 w.2.1 w.2.2 hmp hmp32 (hid w hw))).2.1 k

/-- End to end under WRITE failures and truncation together: the sender's `conn.Write`s fail
    wherever and however the trunk makes them fail, the trunk is additionally cut at any byte `k`,
    and the receiving end runs in any way on the frames that come out of what got through: what a
    reader has received on a connection opened before traffic is a prefix of the payloads of the
    frames the sender put out WHOLE for that id — the torn frame, if any, contributes nothing and
    nothing follows it. -/
theorem C11_end_to_end_write_failures (cfg : Cfg) (ops : List WOp) (hops : ∀ op ∈ ops, op.Bounded) (k : Nat)
    (pre post : List Ev) (id h : Nat) (s : MuxSt)
    (hg : bigBuffers (pre ++ Ev.openNew id h :: post) = true)
    (hr : run (MuxSt.init cfg) (pre ++ Ev.openNew id h :: post) = some s)
    (hfirst : countFor id (delivered pre) = 0)
    (hdel : delivered (pre ++ Ev.openNew id h :: post) <+: (decode ((wrun true ops).out.take k)).1) :
    received h (pre ++ Ev.openNew id h :: post) <+: payloadsOf id (wrun true ops).whole := by
  have h1 := C11_no_gap_opened_first cfg pre post id h s hg hr hfirst
  have h2 := hdel.trans ((C11_writer_failstop ops hops).2.1 k)
  exact h1.trans (payloadsOf_prefix (id := id) h2)

/-- Non-vacuity: a write torn inside its payload, then a write on another connection. The torn
    frame is the last thing on the trunk, the later write does not go out at all. -/
example :
    let ops : List WOp := [⟨[⟨5, [1, 2, 3]⟩], none⟩, ⟨[⟨5, [65, 65, 65, 65]⟩], some (0, .payload 2)⟩,
                           ⟨[⟨6, [66, 66]⟩], none⟩]
    (wrun true ops).whole = [⟨5, [1, 2, 3]⟩] ∧ (wrun true ops).closed = true ∧
    (wrun true ops).out = encodeFrame ⟨5, [1, 2, 3]⟩ ++ (encodeFrame ⟨5, [65, 65, 65, 65]⟩).take 10 := by decide

/-- The code before the repair (a payload write that fails before its first byte leaves the mux
    open although the frame's header is out): the next write's header is read as the payload of
    the orphan header — connection 5 receives the four bytes `00 00 00 06` nobody wrote to it, and
    the frame for connection 6 is not among the frames that come out.  Reproduced on the real code
    (corpus/C11/tear-payload.jsonl). -/
theorem unfixed_payload_failure_glues_frames :
    let ops : List WOp := [⟨[⟨5, [65, 65, 65, 65]⟩], some (0, .payload 0)⟩,
                           ⟨[⟨6, [66, 66, 66, 66, 66, 66, 66, 66]⟩], none⟩]
    (wrun false ops).closed = false ∧
    (wrun false ops).whole = [⟨6, [66, 66, 66, 66, 66, 66, 66, 66]⟩] ∧
    ∃ rest, (decode (wrun false ops).out).1 = ⟨5, [0, 0, 0, 6]⟩ :: rest := by
  refine ⟨by decide, by decide, ?_⟩
  have hout : (wrun false [⟨[⟨5, [65, 65, 65, 65]⟩], some (0, .payload 0)⟩,
                           ⟨[⟨6, [66, 66, 66, 66, 66, 66, 66, 66]⟩], none⟩]).out =
      encodeFrame ⟨5, [0, 0, 0, 6]⟩ ++ [0, 0, 0, 8, 66, 66, 66, 66, 66, 66, 66, 66] := by decide
  rw [hout, decode_frame ⟨5, [0, 0, 0, 6]⟩ (by decide) (by decide)]
  exact ⟨_, rfl⟩


/-- However Opens and Closes are ordered, once the mux has closed every connection `Open` has
    handed out and still has registered is closed — also one opened at the very moment of the
    Close, and one opened after it: nothing is left that a `Read` could block on for ever. (The
    code: `Open`'s "closed already?" check and its registration, and `Close`'s sweep over the
    registered connections, all under `connLock`.) -/
theorem C11_open_vs_close (evs : List MuxOpen.Ev) (id : Nat) :
    (MuxOpen.orun evs).muxClosed = true →
      (∀ p ∈ (MuxOpen.orun evs).table, p.2 ∈ (MuxOpen.orun evs).closedObjs) ∧
      (MuxOpen.openAtomic (MuxOpen.orun evs) id).2 ∈ (MuxOpen.openAtomic (MuxOpen.orun evs) id).1.closedObjs := by
  intro hc
  have hinv := MuxOpen.orun_inv evs MuxOpen.OInv.init
  refine ⟨hinv.closed hc, ?_⟩
  have hinv2 := MuxOpen.openAtomic_inv hinv id
  have hc2 : (MuxOpen.openAtomic (MuxOpen.orun evs) id).1.muxClosed = true := by
    unfold MuxOpen.openAtomic
    cases MuxOpen.lookup (MuxOpen.orun evs).table id <;> simpa using hc
  exact hinv2.closed hc2 _ (MuxOpen.lookup_some_mem (MuxOpen.openAtomic_registers _ id))

/-- Why `Open`'s "closed already?" check sits under `connLock`: were the flag read BEFORE the lock
    is taken (NOT what the code does; trial change C11-r6b), a `Close` between the two steps would
    leave a registered, open connection on a closed mux. -/
theorem unfixed_split_open_survives_close :
    let s0 : MuxOpen.OSt := {}
    let v := MuxOpen.openCheck s0 7
    let s1 := MuxOpen.closeMux s0
    let (s2, h) := MuxOpen.openInsert s1 v
    s2.muxClosed = true ∧ MuxOpen.lookup s2.table 7 = some h ∧ h ∉ s2.closedObjs := by decide

/-! ### the unchanged code: a connection opened after the mux has closed never learns of it
(finding C11:open-after-close) -/

/-- `Open` after `Close` hands out a fresh, open connection object: its Read is not enabled
    with any result — it blocks for ever, although the mux is closed. -/
theorem unfixed_open_after_close_read_blocks :
    ∃ s, run (MuxSt.init { mp := 4, qlen := 4 }) [.closeMux, .openNew 1 0] = some s ∧ s.closed = true ∧
      ∀ blen bcap r, step s (.read 0 blen bcap r) = none := by
  refine ⟨_, rfl, rfl, ?_⟩
  intro blen bcap r
  exact C11_open_empty_read_blocks _ 0 { id := 1 } rfl rfl rfl blen bcap r

/-- With the repaired `Open` (docs/fixes/C11-1.patch; the harness measures which behaviour
    the implementation has and passes it as `cfg.lateClosed`): once the mux is closed EVERY
    connection object is closed, whenever it was opened — so by `C11_closed_returns` every
    Read, Write and Close on every logical connection returns. -/
theorem C11_repaired_closed_mux_all_closed (cfg : Cfg) (hlate : cfg.lateClosed = true)
    (tr : List Ev) (s : MuxSt) (hg : bigBuffers tr = true)
    (hr : run (MuxSt.init cfg) tr = some s) (hcl : s.closed = true) :
    ∀ (h : Nat) (c : Conn), s.objs[h]? = some c → c.closed = true :=
  run_allClosed (s := MuxSt.init cfg) hlate (Inv.init cfg)
    (by intro hc; simp [MuxSt.init] at hc) hg hr hcl

example : ∃ s c, run (MuxSt.init { mp := 4, qlen := 4, lateClosed := true }) [.closeMux, .openNew 1 0] = some s ∧
    s.objs[0]? = some c ∧ c.closed = true := ⟨_, _, rfl, rfl, rfl⟩

end Nri.Props.C11
