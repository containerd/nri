import NriModel.Lemmas.GenerateLift
import NriModel.Lemmas.GenerateSpec
import NriModel.Lemmas.GenerateRootfs
import NriModel.Lemmas.GenerateOptions
/-!
Property C13 — applying a container adjustment to an OCI spec changes exactly what it names,
deterministically.  Theorems about `Nri.Generate.adjust` (the model of `Generator.Adjust`,
repaired code).  Throughout:

  `hext : ext.CDIFramed`            the external CDI injector only touches the ghost field `cdi`
  `h : adjust ext s a = .ok s'`     the adjustment was applied without error

Guards (each an explicit hypothesis where the proof needs it, each with a witness theorem at
the end of the file showing the conclusion fails without it):
  * `NodupKeys … s.mounts / s.devices` — original mount destinations / device paths distinct
    (`RemoveMount`/`RemoveDevice` delete only the first match); preserved by `adjust`
    (`C13_mounts_nodup_preserved`, `C13_devices_nodup_preserved`);
  * `Env.WF s.env` — original environment entries are `NAME=value` with distinct non-empty names;
    adjustment keys contain no `'='` and the name looked up is not `""`; preserved by `adjust`
    (`C13_env_wf_preserved`);
  * for "parents first": the PARENT's destination is a cleaned path (children may be unclean).
"Marked" = key starts with `'-'` (removal marker).
-/
namespace Nri.Props.C13
open Nri Nri.Api Nri.Generate
open Nri.Oci (Spec)

variable {ext : Externals} {s s' : Spec} {a : Adjustment}

/-! ## Annotations (a Go map: entries reach the generator in an arbitrary order) -/

/-- Determinism: any iteration order `π` of the annotation map gives the same annotations. -/
theorem C13_annotations_perm (ann : AList Str Str) (E π : List (Str × Str)) (hp : π.Perm E)
    (hn : AList.WF E) (k : Str) :
    AList.lookup (Annotations.apply ann π) k = AList.lookup (Annotations.apply ann E) k :=
  Annotations.lookup_apply_perm ann hp hn k

example : (([(str "-k", []), (str "k", str "new")] : List (Str × Str)).Perm
    [(str "k", str "new"), (str "-k", [])]) := List.Perm.swap _ _ _

/-- Determinism for what Go really does: the removal loop and the set loop of
    `AdjustAnnotations` each draw their OWN iteration order (`π1`, `π2`) of the same map; every
    pair of orders gives the same annotations. -/
theorem C13_annotations_two_orders (ann : AList Str Str) (E π1 π2 : List (Str × Str))
    (h1 : π1.Perm E) (h2 : π2.Perm E) (hn : AList.WF E) (k : Str) :
    AList.lookup (Annotations.applyOrders ann π1 π2) k = AList.lookup (Annotations.apply ann E) k :=
  Annotations.lookup_applyOrders ann h1 h2 hn k

example : AList.lookup (Annotations.applyOrders [(str "k", str "old")]
      [(str "k", str "new"), (str "-k", [])] [(str "-k", []), (str "k", str "new")]) (str "k")
    = some (str "new") := by decide

/-- Set wins: an unmarked entry `(k, v)` ends up as the value of `k`, also when `-k` is in the
    same adjustment, whatever the iteration order. -/
theorem C13_annotations_set_wins (hext : ext.CDIFramed) (h : adjust ext s a = .ok s')
    (hn : AList.WF a.annotations) {k v : Str} (hk : (k, v) ∈ a.annotations)
    (hm : isMarked k = false) : AList.lookup s'.annotations k = some v := by
  rw [annotations_lookup hext h]
  exact requested_set Prod.fst Prod.snd _ (LastSet.of_nodup Prod.fst hn hk hm)

example : AList.lookup (Annotations.apply [(str "k", str "old")] [(str "k", str "new"), (str "-k", [])]) (str "k")
    = some (str "new") := by decide

/-- Removed: `-k` without a set of `k` leaves no annotation `k`. -/
theorem C13_annotations_removed (hext : ext.CDIFramed) (h : adjust ext s a = .ok s')
    {k v : Str} (hk : (markForRemoval k, v) ∈ a.annotations)
    (hno : ∀ e ∈ a.annotations, e.1 = k → isMarked k = true) :
    AList.lookup s'.annotations k = none := by
  rw [annotations_lookup hext h]
  exact requested_removed Prod.fst Prod.snd _ hk rfl fun e he hm hek => by
    rw [hek, hno e he hek] at hm; cases hm

/-- Frame: a key the adjustment does not name (neither `k` nor `-k`) keeps its value. -/
theorem C13_annotations_frame (hext : ext.CDIFramed) (h : adjust ext s a = .ok s') {k : Str}
    (hno : ∀ e ∈ a.annotations, stripMarker e.1 ≠ k) :
    AList.lookup s'.annotations k = AList.lookup s.annotations k := by
  rw [annotations_lookup hext h]
  exact requested_unnamed Prod.fst Prod.snd _ hno

/-- Set wins, env: the last unmarked entry `NAME=value` for a name is what `NAME` holds
    afterwards — wherever `-NAME` stands in the list, before or after it. -/
theorem C13_env_set_wins (hext : ext.CDIFramed) (h : adjust ext s a = .ok s')
    (hwf : Env.WF s.env) (hkeys : ∀ x ∈ a.env, '=' ∉ stripMarker x.key)
    {e : KeyValue} (he : LastSet KeyValue.key a.env e) (hk : e.key ≠ []) :
    Env.lookup s'.env e.key = some e.value := by
  rw [env_lookup hext h hwf hkeys hk]
  exact requested_set KeyValue.key KeyValue.value _ he

example : Env.lookup (Env.apply [str "FOO=old"] [⟨str "FOO", str "new"⟩, ⟨str "-FOO", []⟩]) (str "FOO")
    = some (str "new") := by decide

/-- Removed, env. -/
theorem C13_env_removed (hext : ext.CDIFramed) (h : adjust ext s a = .ok s')
    (hwf : Env.WF s.env) (hkeys : ∀ x ∈ a.env, '=' ∉ stripMarker x.key)
    {k : Str} (hk : k ≠ []) {e : KeyValue} (he : e ∈ a.env) (hek : e.key = markForRemoval k)
    (hno : ∀ x ∈ a.env, isMarked x.key = false → x.key ≠ k) :
    Env.lookup s'.env k = none := by
  rw [env_lookup hext h hwf hkeys hk]
  exact requested_removed KeyValue.key KeyValue.value _ he hek hno

/-- Frame, env: a variable the adjustment does not name keeps its value … -/
theorem C13_env_frame (hext : ext.CDIFramed) (h : adjust ext s a = .ok s')
    (hwf : Env.WF s.env) (hkeys : ∀ x ∈ a.env, '=' ∉ stripMarker x.key)
    {k : Str} (hk : k ≠ []) (hno : ∀ x ∈ a.env, stripMarker x.key ≠ k) :
    Env.lookup s'.env k = Env.lookup s.env k := by
  rw [env_lookup hext h hwf hkeys hk]
  exact requested_unnamed KeyValue.key KeyValue.value _ hno

/-- … and the entries of all unnamed variables come out unchanged, in their original order. -/
theorem C13_env_frame_order (hext : ext.CDIFramed) (h : adjust ext s a = .ok s')
    (hwf : Env.WF s.env) (hkeys : ∀ x ∈ a.env, '=' ∉ stripMarker x.key) :
    s'.env.filter (fun e => !(a.env.map (fun x => stripMarker x.key)).contains (Env.nameOf e)) =
    s.env.filter (fun e => !(a.env.map (fun x => stripMarker x.key)).contains (Env.nameOf e)) := by
  rw [(adjust_ok hext h).env]
  exact Env.filter_apply s.env a.env hwf hkeys

/-- Set wins, devices. -/
theorem C13_devices_set_wins (hext : ext.CDIFramed) (h : adjust ext s a = .ok s')
    (hn : NodupKeys Oci.Device.path s.devices) {d : LinuxDevice}
    (hd : LastSet LinuxDevice.path a.linuxDevices d) :
    find Oci.Device.path d.path s'.devices = some d.toOCI := by
  rw [devices_find hext h hn]
  exact requested_set LinuxDevice.path LinuxDevice.toOCI _ hd

/-- Removed, devices. -/
theorem C13_devices_removed (hext : ext.CDIFramed) (h : adjust ext s a = .ok s')
    (hn : NodupKeys Oci.Device.path s.devices) {k : Str} {d : LinuxDevice}
    (hd : d ∈ a.linuxDevices) (hdk : d.path = markForRemoval k)
    (hno : ∀ x ∈ a.linuxDevices, isMarked x.path = false → x.path ≠ k) :
    find Oci.Device.path k s'.devices = none := by
  rw [devices_find hext h hn]
  exact requested_removed LinuxDevice.path LinuxDevice.toOCI _ hd hdk hno

/-- Frame, devices: an unnamed path keeps its device … -/
theorem C13_devices_frame (hext : ext.CDIFramed) (h : adjust ext s a = .ok s')
    (hn : NodupKeys Oci.Device.path s.devices) {k : Str}
    (hno : ∀ x ∈ a.linuxDevices, stripMarker x.path ≠ k) :
    find Oci.Device.path k s'.devices = find Oci.Device.path k s.devices := by
  rw [devices_find hext h hn]
  exact requested_unnamed LinuxDevice.path LinuxDevice.toOCI _ hno

/-- … and the unnamed devices keep their relative order. -/
theorem C13_devices_frame_order (hext : ext.CDIFramed) (h : adjust ext s a = .ok s')
    (hn : NodupKeys Oci.Device.path s.devices) :
    s'.devices.filter (fun x => !(a.linuxDevices.map (fun d => stripMarker d.path)).contains x.path) =
    s.devices.filter (fun x => !(a.linuxDevices.map (fun d => stripMarker d.path)).contains x.path) := by
  rw [devices_eq hext h hn]
  exact filter_twoPass_unnamed Oci.Device.path LinuxDevice.path LinuxDevice.toOCI (fun _ _ => rfl) _ _

/-- The device cgroup: the original rules, then one allow rule per device set, in list order
    (nothing is ever retracted). -/
theorem C13_devices_cgroup_rules (hext : ext.CDIFramed) (h : adjust ext s a = .ok s') :
    s'.devRules = s.devRules ++
      (a.linuxDevices.filter (fun d => !isMarked d.path)).map LinuxDevice.cgroupRule := by
  have := congrArg Prod.snd (adjust_ok hext h).devices
  simp only at this
  rw [this, Devices.apply_snd]

/-- With no mount in the adjustment the mount list is left exactly as it was. -/
theorem C13_mounts_untouched (hext : ext.CDIFramed) (h : adjust ext s a = .ok s')
    (he : a.mounts = []) : s'.mounts = s.mounts ∧ s'.rootfsPropagation = s.rootfsPropagation :=
  mounts_nil hext h he

/-- Set wins, mounts. -/
theorem C13_mounts_set_wins (hext : ext.CDIFramed) (h : adjust ext s a = .ok s')
    (hn : NodupKeys Oci.Mount.destination s.mounts) {m : Api.Mount}
    (hm : LastSet Api.Mount.destination a.mounts m) :
    find Oci.Mount.destination m.destination s'.mounts = some m.toOCI := by
  rw [mounts_find hext h hn]
  exact requested_set Api.Mount.destination Api.Mount.toOCI _ hm

/-- Removed, mounts. -/
theorem C13_mounts_removed (hext : ext.CDIFramed) (h : adjust ext s a = .ok s')
    (hn : NodupKeys Oci.Mount.destination s.mounts) {k : Str} {m : Api.Mount}
    (hm : m ∈ a.mounts) (hmk : m.destination = markForRemoval k)
    (hno : ∀ x ∈ a.mounts, isMarked x.destination = false → x.destination ≠ k) :
    find Oci.Mount.destination k s'.mounts = none := by
  rw [mounts_find hext h hn]
  exact requested_removed Api.Mount.destination Api.Mount.toOCI _ hm hmk hno

/-- Frame, mounts: an unnamed destination keeps its mount … -/
theorem C13_mounts_frame (hext : ext.CDIFramed) (h : adjust ext s a = .ok s')
    (hn : NodupKeys Oci.Mount.destination s.mounts) {k : Str}
    (hno : ∀ x ∈ a.mounts, stripMarker x.destination ≠ k) :
    find Oci.Mount.destination k s'.mounts = find Oci.Mount.destination k s.mounts := by
  rw [mounts_find hext h hn]
  exact requested_unnamed Api.Mount.destination Api.Mount.toOCI _ hno

/-- … and the unnamed mounts are all still there, none duplicated (as a multiset; their order
    is the sort order). -/
theorem C13_mounts_frame_perm (hext : ext.CDIFramed) (h : adjust ext s a = .ok s') :
    (s'.mounts.filter (fun x => !(a.mounts.map (fun m => stripMarker m.destination)).contains x.destination)).Perm
    (s.mounts.filter (fun x => !(a.mounts.map (fun m => stripMarker m.destination)).contains x.destination)) := by
  by_cases hne : a.mounts = []
  · rw [(mounts_nil hext h hne).1]
  rw [mounts_eq hext h hne]
  refine ((Mounts.sortMounts_perm _).filter _).trans (.of_eq ?_)
  exact filter_twoPass_unnamed Oci.Mount.destination Api.Mount.destination Api.Mount.toOCI (fun _ _ => rfl) _ _

/-- After a mount adjustment the mount list is sorted by `orderedMounts.Less`
    (number of path separators of the cleaned destination, then the destination string). -/
theorem C13_mounts_sorted (hext : ext.CDIFramed) (h : adjust ext s a = .ok s')
    (hne : a.mounts ≠ []) : Mounts.Sorted s'.mounts := by
  rw [mounts_eq hext h hne]; exact Mounts.sortMounts_sorted _

/-- Parents first: after a mount adjustment a mount `p` whose destination is a cleaned path
    stands before every mount `c` whose destination DENOTES (`filepath.Clean`) a directory below
    `p`.  Only the parent has to be cleaned; `c` may be written `/data/`, `//x/./y`, ….  (When `p`
    is the root, `c` must be written with a leading `/`, as every absolute path is.)
    The guard on `p` cannot be dropped: `guard_unclean_child_first`. -/
theorem C13_parent_first (hext : ext.CDIFramed) (h : adjust ext s a = .ok s')
    (hne : a.mounts ≠ [])
    {i j : Nat} {p c : Oci.Mount} (hi : s'.mounts[i]? = some p) (hj : s'.mounts[j]? = some c)
    (hclean : Mounts.cleanPath p.destination = p.destination)
    (habs : p.destination = ['/'] → ∃ t, c.destination = '/' :: t)
    (hanc : Mounts.IsAncestor p.destination (Mounts.cleanPath c.destination)) : i < j := by
  have hs := C13_mounts_sorted hext h hne
  exact Mounts.sorted_index_lt hs hi hj (Mounts.mountLt_of_clean_parent hclean habs hanc)

example : Mounts.cleanPath (str "/a") = str "/a" ∧
    Mounts.IsAncestor (str "/a") (Mounts.cleanPath (str "/a//b/")) :=
  ⟨by decide, str "b", by decide, Or.inl (by decide)⟩

/-- The special case with both destinations cleaned. -/
theorem C13_parent_first_clean (hext : ext.CDIFramed) (h : adjust ext s a = .ok s')
    (hne : a.mounts ≠ [])
    {i j : Nat} {p c : Oci.Mount} (hi : s'.mounts[i]? = some p) (hj : s'.mounts[j]? = some c)
    (hp : Mounts.cleanPath p.destination = p.destination)
    (hc : Mounts.cleanPath c.destination = c.destination)
    (hanc : Mounts.IsAncestor p.destination c.destination) : i < j := by
  exact Mounts.sorted_index_lt (C13_mounts_sorted hext h hne) hi hj (Mounts.mountLt_of_ancestor hp hc hanc)

/-- Cleaned INPUTS give a cleaned result (so the hypotheses of `C13_parent_first_clean`, and the
    hypothesis on the parent in `C13_parent_first`, can be put on the inputs). -/
theorem C13_clean_paths_preserved (hext : ext.CDIFramed) (h : adjust ext s a = .ok s') (hne : a.mounts ≠ [])
    (h1 : ∀ m ∈ s.mounts, Mounts.cleanPath m.destination = m.destination)
    (h2 : ∀ m ∈ a.mounts, isMarked m.destination = false → Mounts.cleanPath m.destination = m.destination) :
    ∀ m ∈ s'.mounts, Mounts.cleanPath m.destination = m.destination := by
  intro m hm
  rw [mounts_eq hext h hne] at hm
  have hm := (Mounts.sortMounts_perm _).mem_iff.mp hm
  rcases mem_gSets _ _ _ _ hm with hm | ⟨e, he, hem, hx⟩
  · exact h1 m (mem_gRemovals _ _ _ hm)
  · rw [hx]; exact h2 e he hem

example : Mounts.IsAncestor (str "/a") (str "/a/b") := ⟨str "b", by decide, Or.inl rfl⟩
example : Mounts.cleanPath (str "/a/b") = str "/a/b" := by decide

/-! ## Requested values appear -/

/-- args: a non-empty command line replaces the old one; a leading `""` (the `UpdateArgs`
    marker) is not part of it. -/
theorem C13_args (hext : ext.CDIFramed) (h : adjust ext s a = .ok s') :
    (∀ x r, a.args = x :: r → x ≠ [] → s'.args = a.args) ∧
    (∀ x r, a.args = [] :: x :: r → s'.args = x :: r) ∧
    (a.args = [] → s'.args = s.args) := by
  rw [(adjust_ok hext h).args]
  refine ⟨?_, ?_, ?_⟩
  · intro x r e hx; rw [e]
    cases x with
    | nil => exact absurd rfl hx
    | cons c t => simp [Args.apply]
  · intro x r e; rw [e]; simp [Args.apply]
  · intro e; rw [e]; simp [Args.apply]

/-- hooks: each requested hook is appended, converted, to the list of its own kind. -/
theorem C13_hooks (hext : ext.CDIFramed) (h : adjust ext s a = .ok s') (hk : Api.Hooks)
    (ha : a.hooks = some hk) :
    s'.hooks.prestart = s.hooks.prestart ++ hk.prestart.map Hook.toOCI ∧
    s'.hooks.poststart = s.hooks.poststart ++ hk.poststart.map Hook.toOCI ∧
    s'.hooks.poststop = s.hooks.poststop ++ hk.poststop.map Hook.toOCI ∧
    s'.hooks.createRuntime = s.hooks.createRuntime ++ hk.createRuntime.map Hook.toOCI ∧
    s'.hooks.createContainer = s.hooks.createContainer ++ hk.createContainer.map Hook.toOCI ∧
    s'.hooks.startContainer = s.hooks.startContainer ++ hk.startContainer.map Hook.toOCI := by
  have := (adjust_ok hext h).hooks
  rw [ha] at this
  simp only at this
  rw [this]
  exact ⟨rfl, rfl, rfl, rfl, rfl, rfl⟩

/-- rlimits: appended in order. -/
theorem C13_rlimits (hext : ext.CDIFramed) (h : adjust ext s a = .ok s') :
    s'.rlimits = s.rlimits ++ a.rlimits.map POSIXRlimit.toOCI := (adjust_ok hext h).rlimits

/-- CDI: with an injector configured and names requested, the injector is called once, with
    exactly the requested names in order, on the spec as adjusted so far; `cdi` is its result. -/
theorem C13_cdi (hext : ext.CDIFramed) (h : adjust ext s a = .ok s')
    (inj : Spec → List Str → Except Unit Spec) (hi : ext.injectCDI = some inj) (hn : a.cdiDevices ≠ []) :
    ∃ s1, inj (adjustHooks (adjustArgs (adjustEnv (adjustAnnotations s a.annotations) a.env) a.args) a.hooks)
            a.cdiDevices = .ok s1 ∧ s'.cdi = s1.cdi := by
  obtain ⟨s1, h1, h2⟩ := (adjust_ok hext h).cdi
  refine ⟨s1, ?_, h2⟩
  unfold injectCDI at h1
  rw [hi] at h1
  have : a.cdiDevices.isEmpty = false := by cases hl : a.cdiDevices <;> simp_all
  simp only [this, Bool.false_eq_true, if_false] at h1
  split at h1
  · rename_i s2 hs2; cases h1; exact hs2
  · cases h1

/-- … for the recording injector: the names are appended to `cdi`. -/
theorem C13_cdi_recorded {bad : List Str} (hi : ext.injectCDI = some (recordingInjector bad))
    (h : adjust ext s a = .ok s') (hn : a.cdiDevices ≠ []) : s'.cdi = s.cdi ++ a.cdiDevices := by
  have hext : ext.CDIFramed := by
    intro inj hinj; rw [hi] at hinj; cases hinj; exact recordingInjector_framed bad
  obtain ⟨s1, h1, h2⟩ := C13_cdi hext h _ hi hn
  rw [h2]
  unfold recordingInjector at h1
  split at h1
  · cases h1
  · cases h1; rw [pre_fields]

/-- cgroups path and OOM score adjustment. -/
theorem C13_cgroups_path (hext : ext.CDIFramed) (h : adjust ext s a = .ok s') :
    (a.cgroupsPath ≠ [] → s'.cgroupsPath = a.cgroupsPath) ∧
    (a.cgroupsPath = [] → s'.cgroupsPath = s.cgroupsPath) := by
  rw [(adjust_ok hext h).cgroupsPath]
  exact ⟨fun hp => by simp [hp], fun hp => by simp [hp]⟩

theorem C13_oom_score (hext : ext.CDIFramed) (h : adjust ext s a = .ok s') :
    (∀ v, a.oomScoreAdj = some v → s'.oomScoreAdj = some v) ∧
    (a.oomScoreAdj = none → s'.oomScoreAdj = s.oomScoreAdj) := by
  rw [(adjust_ok hext h).oomScoreAdj]
  exact ⟨fun v hv => by rw [hv], fun hv => by rw [hv]⟩

/-- CPU: every requested field has the requested value, every other field is unchanged. -/
theorem C13_cpu (hext : ext.CDIFramed) (h : adjust ext s a = .ok s') (r : LinuxResources) (c : LinuxCPU)
    (hr : a.resources = some r) (hc : r.cpu = some c) :
    s'.cpu.shares = (match c.shares with | some v => some v | none => s.cpu.shares) ∧
    s'.cpu.quota = (match c.quota with | some v => some v | none => s.cpu.quota) ∧
    s'.cpu.period = (match c.period with | some v => some v | none => s.cpu.period) ∧
    s'.cpu.realtimeRuntime = (match c.realtimeRuntime with | some v => some v | none => s.cpu.realtimeRuntime) ∧
    s'.cpu.realtimePeriod = (match c.realtimePeriod with | some v => some v | none => s.cpu.realtimePeriod) ∧
    s'.cpu.cpus = (if c.cpus = [] then s.cpu.cpus else c.cpus) ∧
    s'.cpu.mems = (if c.mems = [] then s.cpu.mems else c.mems) := by
  rw [(adjust_ok hext h).cpu]
  unfold Resources.cpuAfter
  rw [hr]; simp only [hc]
  rw [Resources.applyCpu_eq]
  exact ⟨rfl, rfl, rfl, rfl, rfl, rfl, rfl⟩

/-- Memory: a requested non-zero limit becomes the limit and the swap limit; nothing else in
    the memory section changes (the generator applies no other memory field). -/
theorem C13_memory_limit (hext : ext.CDIFramed) (h : adjust ext s a = .ok s') (r : LinuxResources)
    (m : LinuxMemory) (hr : a.resources = some r) (hm : r.memory = some m) (l : Int)
    (hl : m.limit = some l) (hz : l ≠ 0) :
    s'.memory = { s.memory with limit := some l, swap := some l } := by
  rw [(adjust_ok hext h).memory]
  unfold Resources.memoryAfter
  rw [hr]; simp only [hm]
  unfold Resources.applyMemory
  rw [hl]; simp [hz]

/-- Hugepages: the limit of every page size is the last requested one, else the original. -/
theorem C13_hugepages (hext : ext.CDIFramed) (h : adjust ext s a = .ok s') (r : LinuxResources)
    (hr : a.resources = some r) (k : Str) :
    Resources.hfind k s'.hugepages =
      pick (lastMatch (fun x : Api.HugepageLimit => x.pageSize == k) r.hugepageLimits) (·.limit)
        (Resources.hfind k s.hugepages) := by
  rw [(adjust_ok hext h).hugepages]
  unfold Resources.hugepagesAfter
  rw [hr]; exact Resources.hfind_applyHugepages _ _ _

/-- Unified: every requested key has the requested value (map with distinct keys), every other
    key is unchanged, for any iteration order. -/
theorem C13_unified (hext : ext.CDIFramed) (h : adjust ext s a = .ok s') (r : LinuxResources)
    (hr : a.resources = some r) (hn : AList.WF r.unified) :
    (∀ k v, (k, v) ∈ r.unified → AList.lookup s'.unified k = some v) ∧
    (∀ k, (∀ e ∈ r.unified, e.1 ≠ k) → AList.lookup s'.unified k = AList.lookup s.unified k) := by
  rw [(adjust_ok hext h).unified]
  unfold Resources.unifiedAfter
  rw [hr]; simp only
  constructor
  · intro k v hk
    rw [Resources.lookup_applyUnified, lastMatch_key_of_nodup Prod.fst hn hk, pick_some]
  · intro k hno
    rw [Resources.lookup_applyUnified]
    have : lastMatch (fun e : Str × Str => e.1 == k) r.unified = none := by
      rw [lastMatch_none_iff]; intro e he; simpa using hno e he
    rw [this, pick_none]

theorem C13_unified_perm (u : AList Str Str) (E π : List (Str × Str)) (hp : π.Perm E)
    (hn : AList.WF E) (k : Str) :
    AList.lookup (Resources.applyUnified u π) k = AList.lookup (Resources.applyUnified u E) k :=
  Resources.lookup_applyUnified_perm u hp hn k

/-- Pids limit. -/
theorem C13_pids (hext : ext.CDIFramed) (h : adjust ext s a = .ok s') (r : LinuxResources)
    (hr : a.resources = some r) :
    s'.pids = (match r.pids with | some v => some v | none => s.pids) := by
  rw [(adjust_ok hext h).pids]
  unfold Resources.pidsAfter
  rw [hr]
  rfl

/-- Without a resources section nothing in the resources changes. -/
theorem C13_resources_untouched (hext : ext.CDIFramed) (h : adjust ext s a = .ok s')
    (hr : a.resources = none) :
    s'.cpu = s.cpu ∧ s'.memory = s.memory ∧ s'.hugepages = s.hugepages ∧ s'.unified = s.unified ∧
    s'.pids = s.pids ∧ s'.blockio = s.blockio ∧ s'.rdt = s.rdt := by
  have ok := adjust_ok hext h
  have hb := ok.blockio
  have hrd := ok.rdt
  unfold Adjustment.blockioClass at hb
  unfold Adjustment.rdtClass at hrd
  rw [hr] at hb hrd
  simp only [Resources.applyBlockIO, Resources.applyRdt] at hb hrd
  refine ⟨?_, ?_, ?_, ?_, ?_, (Except.ok.inj hb).symm, (Except.ok.inj hrd).symm⟩
  · rw [ok.cpu, hr]; rfl
  · rw [ok.memory, hr]; rfl
  · rw [ok.hugepages, hr]; rfl
  · rw [ok.unified, hr]; rfl
  · rw [ok.pids, hr]; rfl

/-! ## Not requested ⇒ not touched (the remaining families) -/

/-- No hooks in the adjustment: all six hook lists are unchanged. -/
theorem C13_hooks_untouched (hext : ext.CDIFramed) (h : adjust ext s a = .ok s')
    (hh : a.hooks = none) : s'.hooks = s.hooks := by
  rw [(adjust_ok hext h).hooks, hh]

/-- A resources section without a cpu / without a memory section leaves cpu / memory unchanged;
    so does a memory section without a limit, or with limit 0 (finding C13-limit0). -/
theorem C13_cpu_untouched (hext : ext.CDIFramed) (h : adjust ext s a = .ok s') (r : LinuxResources)
    (hr : a.resources = some r) (hc : r.cpu = none) : s'.cpu = s.cpu := by
  rw [(adjust_ok hext h).cpu]; unfold Resources.cpuAfter; rw [hr]; simp only [hc]

theorem C13_memory_untouched (hext : ext.CDIFramed) (h : adjust ext s a = .ok s') (r : LinuxResources)
    (hr : a.resources = some r)
    (hm : r.memory = none ∨ ∃ m, r.memory = some m ∧ (m.limit = none ∨ m.limit = some 0)) :
    s'.memory = s.memory := by
  rw [(adjust_ok hext h).memory]; unfold Resources.memoryAfter; rw [hr]
  rcases hm with hm | ⟨m, hm, hl | hl⟩
  · simp only [hm]
  · simp only [hm, Resources.applyMemory, hl]
  · simp only [hm, Resources.applyMemory, hl]; rfl

/-- Without an injector, or without CDI names, `cdi` is unchanged. -/
theorem C13_cdi_untouched (hext : ext.CDIFramed) (h : adjust ext s a = .ok s')
    (hn : ext.injectCDI = none ∨ a.cdiDevices = []) : s'.cdi = s.cdi := by
  obtain ⟨s1, h1, h2⟩ := (adjust_ok hext h).cdi
  rw [h2]
  unfold injectCDI at h1
  rcases hn with hn | hn
  · rw [hn] at h1; cases h1; rw [pre_fields]
  · cases hi : ext.injectCDI with
    | none => rw [hi] at h1; cases h1; rw [pre_fields]
    | some inj => rw [hi, hn] at h1; simp only [List.isEmpty_nil, if_true] at h1; cases h1; rw [pre_fields]

/-- `Linux.RootfsPropagation` is only ever changed by a mount that is SET with an `rshared` or
    `rslave` option; removals and other mounts leave it alone. -/
theorem C13_rootfs_propagation_untouched (hext : ext.CDIFramed) (h : adjust ext s a = .ok s')
    (hq : ∀ m ∈ a.mounts, isMarked m.destination = false →
      ∀ o ∈ m.options, o ≠ str "rshared" ∧ o ≠ str "rslave") :
    s'.rootfsPropagation = s.rootfsPropagation :=
  (Mounts.apply_rootfs_eq (adjust_ok hext h).mounts).trans (Mounts.expectedRootfs_of_quiet _ hq)

example : ∀ o ∈ [str "ro", str "rprivate"], o ≠ str "rshared" ∧ o ≠ str "rslave" := by decide

/-- The VALUE of `Linux.RootfsPropagation` after any successful application, for every mount list,
    every original value and every host: it is `Check.expectedRootfs` — `rshared` when some applied
    mount (effectively) asks for `rshared`, raised to `rslave` when some asks for `rslave` and the
    original is neither `rshared` nor `rslave`, the original otherwise.  In particular it is never
    lowered and does not depend on the order in which the asking entries come.  This is the
    predicate the check evaluates on the implementation's own result. -/
theorem C13_rootfs_propagation_value (hext : ext.CDIFramed) (h : adjust ext s a = .ok s') :
    s'.rootfsPropagation = Check.expectedRootfs s.rootfsPropagation a.mounts :=
  Mounts.apply_rootfs_eq (adjust_ok hext h).mounts

/-- … never lowered: an original `rshared` stays whatever the mounts ask for. -/
theorem C13_rootfs_propagation_never_lowered (hext : ext.CDIFramed) (h : adjust ext s a = .ok s')
    (hs : s.rootfsPropagation = str "rshared") : s'.rootfsPropagation = str "rshared" := by
  rw [C13_rootfs_propagation_value hext h, hs]
  unfold Check.expectedRootfs Check.raiseRootfs
  split
  · rfl
  · simp

-- non-vacuity: the requests of a concrete list (sticky query: the third entry inherits `rslave`)
example : Check.propRequests []
    [ { destination := str "/p", type := str "bind", source := str "/s", options := [str "rprivate"] },
      { destination := str "-/q", type := [], source := [], options := [] },
      { destination := str "/q", type := str "bind", source := str "/s", options := [str "rslave", str "ro"] },
      { destination := str "/r", type := str "bind", source := str "/s", options := [str "ro"] } ]
    = [str "rprivate", str "rslave", str "rslave"] := by decide
example : Check.raiseRootfs (str "rprivate") [str "rprivate", str "rslave"] = str "rslave" := by decide
example : Check.raiseRootfs (str "rshared") [str "rslave"] = str "rshared" := by decide
example : Check.raiseRootfs (str "rslave") [str "rslave", str "rshared"] = str "rshared" := by decide

/-! ## The guards hold again of the result (plugin chains, repeated application) -/

/-- `Env.WF` is preserved: the result is again a list of `NAME=value` entries with non-empty
    names each occurring ONCE — so the env theorems apply to the output of a previous `Adjust`. -/
theorem C13_env_wf_preserved (hext : ext.CDIFramed) (h : adjust ext s a = .ok s')
    (hwf : Env.WF s.env) (hkeys : ∀ x ∈ a.env, '=' ∉ stripMarker x.key) : Env.WF s'.env := by
  rw [(adjust_ok hext h).env]; exact Env.wf_apply s.env a.env hwf hkeys

/-- Uniqueness: no variable name occurs twice in the resulting environment; together with
    `C13_env_set_wins` the requested entry is THE entry of its name, not merely the first. -/
theorem C13_env_unique (hext : ext.CDIFramed) (h : adjust ext s a = .ok s')
    (hwf : Env.WF s.env) (hkeys : ∀ x ∈ a.env, '=' ∉ stripMarker x.key) :
    (s'.env.map Env.nameOf).Nodup := (C13_env_wf_preserved hext h hwf hkeys).nodup

/-- … hence every entry of the result whose name is `k` IS `k=value` for the looked-up value. -/
theorem C13_env_set_wins_unique (hext : ext.CDIFramed) (h : adjust ext s a = .ok s')
    (hwf : Env.WF s.env) (hkeys : ∀ x ∈ a.env, '=' ∉ stripMarker x.key)
    {e : KeyValue} (he : LastSet KeyValue.key a.env e) (hk : e.key ≠ [])
    {x : Str} (hx : x ∈ s'.env) (hn : Env.nameOf x = e.key) : x = e.toOCI := by
  have hl := C13_env_set_wins hext h hwf hkeys he hk
  rw [← hn] at hl
  rw [(C13_env_wf_preserved hext h hwf hkeys).eq_of_lookup hx hl, hn]
  rfl

/-- Distinct mount destinations are preserved … -/
theorem C13_mounts_nodup_preserved (hext : ext.CDIFramed) (h : adjust ext s a = .ok s')
    (hn : NodupKeys Oci.Mount.destination s.mounts) : NodupKeys Oci.Mount.destination s'.mounts := by
  by_cases hne : a.mounts = []
  · rw [(mounts_nil hext h hne).1]; exact hn
  rw [mounts_eq hext h hne]
  exact Mounts.nodup_sortMounts (mounts_nodup hn _)

/-- … and so are distinct device paths. -/
theorem C13_devices_nodup_preserved (hext : ext.CDIFramed) (h : adjust ext s a = .ok s')
    (hn : NodupKeys Oci.Device.path s.devices) : NodupKeys Oci.Device.path s'.devices := by
  rw [devices_eq hext h hn]
  exact nodup_twoPass Oci.Device.path LinuxDevice.path LinuxDevice.toOCI (fun _ _ => rfl) _ hn

/-- Up to the representation of the two maps, two specs are the same. -/
def SpecEqv (x y : Spec) : Prop :=
  (∀ k, AList.lookup x.annotations k = AList.lookup y.annotations k) ∧
  (∀ k, AList.lookup x.unified k = AList.lookup y.unified k) ∧
  { x with annotations := [], unified := [] } = { y with annotations := [], unified := [] }

/-- the unified map of an adjustment (empty when there is no resources section) -/
def unifiedOf (a : Adjustment) : AList Str Str :=
  match a.resources with | some r => r.unified | none => []

/-- Same inputs, same spec: whatever order the annotation map (`π`) and the unified map (`σ`)
    are iterated in, `Adjust` succeeds again and the specs are equal (the CDI injector being
    the recording one, or absent).  Everything else in `Adjust` is a function of lists. -/
theorem C13_deterministic {bad : List Str}
    (hi : ext.injectCDI = some (recordingInjector bad) ∨ ext.injectCDI = none)
    (π σ : List (Str × Str)) (hπ : π.Perm a.annotations) (hσ : σ.Perm (unifiedOf a))
    (hn1 : AList.WF a.annotations) (hn2 : AList.WF (unifiedOf a))
    (h : adjust ext s a = .ok s') :
    ∃ s'', adjust ext s { withUnified a σ with annotations := π } = .ok s'' ∧ SpecEqv s'' s' := by
  obtain ⟨e1, e2, e3, e4⟩ := reorder_inputs a π σ
  rw [adjust_eq hi] at h ⊢
  rw [e1, e2, e3, e4]
  -- both runs pass the same four fallible steps: CDI injection, block-I/O class, RDT class, mounts
  split at h
  · cases h
  split at h
  · cases h
  split at h
  · cases h
  split at h
  · cases h
  cases h
  refine ⟨_, rfl, ?_⟩
  rw [assemble_reorder]
  refine ⟨fun k => Annotations.lookup_apply_perm s.annotations hπ hn1 k, fun k => ?_, rfl⟩
  show AList.lookup (Resources.unifiedAfter s.unified _) k = AList.lookup (Resources.unifiedAfter s.unified _) k
  unfold unifiedOf at hσ hn2
  cases hres : a.resources with
  | none => rfl
  | some rr =>
    rw [hres] at hσ hn2
    exact Resources.lookup_applyUnified_perm s.unified hσ hn2 k

/-- Same inputs, same spec, for EVERY internal iteration order: `adjustOrders` runs `Adjust` with
    the removal loop of the annotations seeing the map in order `π1`, the set loop in an
    independent order `π2`, and the unified loop in order `σ` (these are all the map iterations
    in `Adjust`; everything else ranges over slices).  Whatever the three orders, it succeeds
    whenever `adjust` does and yields an equal spec. -/
theorem C13_deterministic_orders {bad : List Str}
    (hi : ext.injectCDI = some (recordingInjector bad) ∨ ext.injectCDI = none)
    (π1 π2 σ : List (Str × Str)) (h1 : π1.Perm a.annotations) (h2 : π2.Perm a.annotations)
    (hσ : σ.Perm (unifiedOf a)) (hn1 : AList.WF a.annotations) (hn2 : AList.WF (unifiedOf a))
    (h : adjust ext s a = .ok s') :
    ∃ s'', adjustOrders ext s a π1 π2 σ = .ok s'' ∧ SpecEqv s'' s' := by
  rw [adjustOrders_eq]
  exact C13_deterministic hi (Annotations.mergeOrders π1 π2) σ (Annotations.mergeOrders_perm h1 h2) hσ hn1 hn2 h

/-- … and `adjust` itself is the instance "every loop sees the entries as listed". -/
theorem C13_adjust_is_adjustOrders (ext : Externals) (s : Spec) (a : Adjustment) :
    adjust ext s a = adjustOrders ext s a a.annotations a.annotations (unifiedOf a) := by
  unfold adjustOrders adjust adjustAnnotations Annotations.applyOrders Annotations.apply
  obtain ⟨_, _, _, _, linux, _, _, _⟩ := a
  cases linux with
  | none => rfl
  | some l =>
    obtain ⟨_, res, _, _⟩ := l
    cases res <;> rfl

example : ([(str "-k", ([] : Str)), (str "k", str "v")] : List (Str × Str)).Perm
    [(str "k", str "v"), (str "-k", [])] := List.Perm.swap _ _ _

/-! ## The hypotheses are satisfiable, and the driver's guards imply them -/

/-- The Boolean guard the driver evaluates on an original environment implies `Env.WF`. -/
theorem C13_env_guard_sound (env : List Str) (h : Check.envWF env = true) : Env.WF env := by
  unfold Check.envWF at h
  simp only [Bool.and_eq_true, List.all_eq_true, decide_eq_true_eq] at h
  refine ⟨?_, h.2⟩
  intro e he
  have := h.1 e he
  cases hs : Env.splitEq e with
  | none => rw [hs] at this; cases this
  | some p =>
    obtain ⟨n, v⟩ := p
    rw [hs] at this
    exact ⟨n, v, rfl, by simpa using this⟩

/-- the externals of the correspondence harness satisfy the injector assumption -/
theorem C13_recording_injector_framed (bad : List Str) (ext : Externals)
    (h : ext.injectCDI = some (recordingInjector bad)) : ext.CDIFramed := by
  intro inj hinj; rw [h] at hinj; cases hinj; exact recordingInjector_framed bad

/-- A concrete instance meeting every hypothesis used above at once (non-vacuity): a spec with
    env, a mount, a device and an annotation; an adjustment that removes and re-sets each. -/
theorem C13_hypotheses_satisfiable :
    let ext : Externals := { injectCDI := some (recordingInjector []) }
    let s : Spec := { annotations := [(str "k", str "old")], env := [str "FOO=old"],
                      mounts := [{ destination := str "/a/b" }, { destination := str "/a" }],
                      devices := [{ path := str "/dev/a" }] }
    let a : Adjustment :=
      { annotations := [(str "-k", []), (str "k", str "new")],
        env := [⟨str "-FOO", []⟩, ⟨str "FOO", str "new"⟩],
        mounts := [{ destination := str "-/a" }, { destination := str "/a", source := str "/src" }],
        linux := some { devices := [{ path := str "-/dev/a" }, { path := str "/dev/a", major := 5 }] },
        cdiDevices := [str "v/c=d"] }
    ext.CDIFramed ∧ (∃ s', adjust ext s a = .ok s') ∧ Env.WF s.env ∧ AList.WF a.annotations ∧
    NodupKeys Oci.Mount.destination s.mounts ∧ NodupKeys Oci.Device.path s.devices ∧
    (∀ x ∈ a.env, '=' ∉ stripMarker x.key) ∧
    LastSet KeyValue.key a.env ⟨str "FOO", str "new"⟩ := by
  intro ext s a
  refine ⟨C13_recording_injector_framed [] ext rfl, ⟨_, rfl⟩, C13_env_guard_sound _ (by decide),
    ?_, by decide, by decide, by decide, by decide, ⟨[⟨str "-FOO", []⟩], [], rfl, by simp⟩⟩
  show (List.map (·.1) [(str "-k", ([] : Str)), (str "k", str "new")]).Nodup
  decide

/-! ## The predicate the driver evaluates on the implementation's output -/

/-- What an accepting verdict of the keyed-family predicate `Check.keyed` certifies about ANY
    result `new` (in the check: the real generator's): for every key of the original or named
    by the adjustment, `new` holds what the adjustment wants (`Check.expected`: the converted
    last set / nothing / the original item), nothing else appears, no key occurs twice, and for
    ordered families the untouched items are unchanged in their order — the statements of the
    `set_wins` / `removed` / `frame` / `frame_order` theorems above. -/
theorem C13_check_keyed_meaning {ε β : Type} [DecidableEq β] (fam : String) (show_ : Str → String)
    (rawKey : ε → Str) (conv : ε → β) (key : β → Str) (isMap ordered : Bool) (L : List ε)
    (old new : List β) :
    Check.keyed fam show_ rawKey conv key isMap ordered L old new = [] ↔
      (∀ k, (k ∈ old.map key ∨ k ∈ Check.named rawKey L) →
        find key k new = Check.expected rawKey conv key L old k) ∧
      (∀ x ∈ new, key x ∈ old.map key ∨ key x ∈ Check.named rawKey L) ∧
      NodupKeys key new ∧
      (ordered = true →
        new.filter (fun x => !(Check.named rawKey L).contains (key x)) =
        old.filter (fun x => !(Check.named rawKey L).contains (key x))) :=
  Check.keyed_nil_iff fam show_ rawKey conv key isMap ordered L old new

/-- No false alarm by construction: the model's device result passes the device predicate
    (keyed conditions and cgroup rules) whenever the guard holds. -/
theorem C13_check_accepts_model_devices (hext : ext.CDIFramed) (h : adjust ext s a = .ok s')
    (hn : NodupKeys Oci.Device.path s.devices) :
    Check.checkDevices s.devices a.linuxDevices s'.devices s.devRules s'.devRules = [] := by
  unfold Check.checkDevices
  rw [devices_eq hext h hn, C13_devices_cgroup_rules hext h,
    Check.keyed_accepts_twoPass "devices" Check.showS LinuxDevice.path LinuxDevice.toOCI Oci.Device.path
      false true a.linuxDevices s.devices (fun _ _ => rfl) hn]
  simp

/-- … and so does the model's mount result: the keyed conditions and sortedness (the Boolean
    `parentsFirst` test is not covered by this theorem; `C13_parent_first` is its model-side
    statement). -/
theorem C13_check_accepts_model_mounts (hext : ext.CDIFramed) (h : adjust ext s a = .ok s')
    (hn : NodupKeys Oci.Mount.destination s.mounts) (hne : a.mounts ≠ []) :
    Check.keyed "mounts" Check.showS Api.Mount.destination Api.Mount.toOCI Oci.Mount.destination
      false false a.mounts s.mounts s'.mounts = [] ∧ Check.sortedMounts s'.mounts = true := by
  have hnd := mounts_nodup hn a.mounts
  have hacc := (Check.keyed_nil_iff "mounts" Check.showS Api.Mount.destination Api.Mount.toOCI
      Oci.Mount.destination false false a.mounts s.mounts _).mp
    (Check.keyed_accepts_twoPass "mounts" Check.showS Api.Mount.destination Api.Mount.toOCI
      Oci.Mount.destination false false a.mounts s.mounts (fun _ _ => rfl) hn)
  constructor
  · rw [Check.keyed_nil_iff, mounts_eq hext h hne]
    refine ⟨?_, ?_, Mounts.nodup_sortMounts hnd, by intro hf; cases hf⟩
    · intro k hk
      rw [Mounts.find_sortMounts hnd]; exact hacc.1 k hk
    · intro x hx
      exact hacc.2.1 x ((Mounts.sortMounts_perm _).mem_iff.mp hx)
  · exact Mounts.sortedMounts_of_sorted (C13_mounts_sorted hext h hne)

/-! ## The runtime's callbacks: `WithAnnotationFilter`, `WithResourceChecker`

`adjustWith o ext s a` is `Generator.Adjust` of a generator built with the callbacks `o`
(`NriModel/GenerateOptions.lean`).  Every theorem above is about `adjust`, the generator without
callbacks; these theorems say how the two relate, so that "changes exactly what it names" carries
over to a runtime that installs them: the filter decides WHICH annotation entries are applied (or
refuses the adjustment before anything is touched), the checker has the last word on
`Linux.Resources` and on nothing else. -/

/-- Without callbacks `adjustWith` IS `adjust`. -/
theorem C13_options_default (ext : Externals) (s : Spec) (a : Adjustment) :
    adjustWith {} ext s a = liftGen (adjust ext s a) :=
  adjustWith_default ext s a

/-- A rejecting annotation filter fails the whole `Adjust` with its own error class — for every
    spec, adjustment, external and checker. (It runs first: nothing of the spec has been touched.) -/
theorem C13_annotation_filter_rejects (o : Options) (ext : Externals) (s : Spec) (a : Adjustment)
    (f : AList Str Str → Except Unit (AList Str Str)) (hf : o.filterAnnotations = some f)
    (he : f a.annotations = .error ()) :
    adjustWith o ext s a = .error .annotationFilter := by
  unfold adjustWith filterStage
  rw [hf]
  simp only [he]
  rfl

/-- An accepting annotation filter changes WHICH annotation entries are applied and nothing else:
    `Adjust` is `Adjust` of the generator without the filter on the adjustment whose annotations
    are the filter's answer — so set-wins / removed / frame / determinism hold of the entries the
    filter let through, and every other family is applied as if there were no filter. -/
theorem C13_annotation_filter_factor (o : Options) (ext : Externals) (s : Spec) (a : Adjustment)
    (f : AList Str Str → Except Unit (AList Str Str)) (hf : o.filterAnnotations = some f)
    (ann : AList Str Str) (hk : f a.annotations = .ok ann) (hc : o.checkResources = none) :
    adjustWith o ext s a = liftGen (adjust ext s { a with annotations := ann }) := by
  rw [adjustWith_filter_ok o ext s a f hf ann hk]
  exact adjustWith_plain { o with filterAnnotations := none } rfl hc ext s _

/-- The checker is consulted only for an adjustment that carries a resources section. -/
theorem C13_checker_only_with_resources (o : Options) (ext : Externals) (s : Spec) (a : Adjustment)
    (hf : o.filterAnnotations = none) (hr : a.resources = none) :
    adjustWith o ext s a = liftGen (adjust ext s a) ∧ checkerSees o ext s a = none := by
  refine ⟨?_, ?_⟩
  · rw [adjustWith_check_skipped o ext s a hr]
    exact adjustWith_plain { o with checkResources := none } hf rfl ext s a
  · unfold checkerSees
    rw [filterStage_none o hf]
    have hr' : ({ a with annotations := a.annotations } : Adjustment).resources = none := hr
    simp only [hr']
    cases adjustPre ext s a <;> rfl

/-- With a resources section the checker runs exactly once, after this adjustment's CPU, memory,
    hugepage, unified and pids values are in the spec (and annotations, env, args, hooks, CDI,
    devices, cgroups path, OOM score before them), before block-I/O class, RDT class, mounts and
    rlimits; its error fails `Adjust` with the checker's class; what it returns is what the rest
    of `Adjust` continues from. -/
theorem C13_checker_position (o : Options) (ext : Externals) (hext : ext.CDIFramed) (s : Spec) (a : Adjustment)
    (hf : o.filterAnnotations = none) (chk : Spec → Except Unit Spec) (hc : o.checkResources = some chk)
    (r : LinuxResources) (hr : a.resources = some r) :
    adjustWith o ext s a =
      (match adjustPre ext s a with
       | .error e => .error (.gen e)
       | .ok s1 =>
         match chk s1 with
         | .error _ => .error .resourceCheck
         | .ok s2 => liftGen (adjustPost ext s2 a)) ∧
    (∀ s1, adjustPre ext s a = .ok s1 → checkerSees o ext s a = some s1 ∧
      s1.cpu = Resources.cpuAfter s.cpu (some r) ∧ s1.memory = Resources.memoryAfter s.memory (some r) ∧
      s1.hugepages = Resources.hugepagesAfter s.hugepages (some r) ∧
      s1.unified = Resources.unifiedAfter s.unified (some r) ∧ s1.pids = Resources.pidsAfter s.pids (some r)) := by
  refine ⟨adjustWith_check o ext s a hf chk hc r hr, fun s1 hpre => ⟨?_, ?_⟩⟩
  · unfold checkerSees
    rw [filterStage_none o hf]
    simp only [hpre, hr, hc]
  unfold adjustPre at hpre
  simp only [bind, Except.bind, pure, Except.pure] at hpre
  split at hpre
  · cases hpre
  rename_i s0 h0
  cases hpre
  rw [pre_fields] at h0
  have e0 := injectCDI_framed hext h0
  rw [mid_fields, adjustResources_fields, hr, e0]
  exact ⟨rfl, rfl, rfl, rfl, rfl⟩

/-- A checker that edits only `Linux.Resources` (all the Go callback is handed) cannot disturb
    anything else: when `Adjust` succeeds with it, `Adjust` without it succeeds too and the two
    results agree on every field outside the resources section — annotations, env, args, hooks,
    rlimits, OOM score, mounts, devices, RDT, cgroups path, rootfs propagation, CDI — while the
    CPU, memory, hugepage, unified, pids and device-rule fields are exactly what the checker
    returned (block-I/O: what the checker returned unless the adjustment names a class). -/
theorem C13_checker_frame (o : Options) (ext : Externals) (s : Spec) (a : Adjustment)
    (hf : o.filterAnnotations = none) (chk : Spec → Except Unit Spec) (hc : o.checkResources = some chk)
    (hro : ResourceOnly chk) (r : LinuxResources) (hr : a.resources = some r) {res : Spec}
    (h : adjustWith o ext s a = .ok res) :
    ∃ s1 s2 res0, adjustPre ext s a = .ok s1 ∧ chk s1 = .ok s2 ∧ adjust ext s a = .ok res0 ∧
      blankResources res = blankResources res0 ∧
      res.cpu = s2.cpu ∧ res.memory = s2.memory ∧ res.hugepages = s2.hugepages ∧
      res.unified = s2.unified ∧ res.pids = s2.pids ∧ res.devRules = s2.devRules ∧
      Resources.applyBlockIO ext.resolveBlockIO s2.blockio a.blockioClass = .ok res.blockio := by
  rw [adjustWith_check o ext s a hf chk hc r hr] at h
  cases hpre : adjustPre ext s a with
  | error e => rw [hpre] at h; cases h
  | ok s1 =>
    rw [hpre] at h
    simp only [] at h
    cases hchk : chk s1 with
    | error e => rw [hchk] at h; cases h
    | ok s2 =>
      rw [hchk] at h
      simp only [] at h
      have hpost : adjustPost ext s2 a = .ok res := by
        cases hp : adjustPost ext s2 a with
        | error e => rw [hp] at h; cases h
        | ok x => rw [hp] at h; cases h; rfl
      obtain ⟨t', ht', hb⟩ := (adjustPost_blank ext a (hro s1 s2 hchk)).2 res hpost
      obtain ⟨c1, c2, c3, c4, c5, c6, c7⟩ := adjustPost_resources ext a hpost
      refine ⟨s1, s2, t', rfl, hchk, ?_, hb, c1, c2, c3, c4, c5, c6, c7⟩
      rw [adjust_eq_pre_post, hpre]
      exact ht'

/-- … and it introduces no failure of its own kind other than its own refusal: an error of
    `Adjust` that is not the checker's is the error `Adjust` without the checker gives. -/
theorem C13_checker_no_new_errors (o : Options) (ext : Externals) (s : Spec) (a : Adjustment)
    (hf : o.filterAnnotations = none) (chk : Spec → Except Unit Spec) (hc : o.checkResources = some chk)
    (hro : ResourceOnly chk) (r : LinuxResources) (hr : a.resources = some r) {e : GenError}
    (h : adjustWith o ext s a = .error (.gen e)) :
    adjust ext s a = .error e := by
  rw [adjustWith_check o ext s a hf chk hc r hr] at h
  rw [adjust_eq_pre_post]
  cases hpre : adjustPre ext s a with
  | error e' => rw [hpre] at h; cases h; rfl
  | ok s1 =>
    rw [hpre] at h
    simp only [] at h
    cases hchk : chk s1 with
    | error e' => rw [hchk] at h; cases h
    | ok s2 =>
      rw [hchk] at h
      simp only [] at h
      have hpost : adjustPost ext s2 a = .error e := by
        cases hp : adjustPost ext s2 a with
        | error e' => rw [hp] at h; cases h; rfl
        | ok x => rw [hp] at h; cases h
      exact (adjustPost_blank ext a (hro s1 s2 hchk)).1 e hpost

/-- Non-vacuity: a filter that drops `internal/…` keys and a checker that caps CPU shares at 512,
    on an adjustment that sets an allowed and a dropped annotation, shares 2048 and a mount. -/
def exFilter : AList Str Str → Except Unit (AList Str Str) :=
  fun l => .ok (l.filter fun e => !(str "internal/").isPrefixOf e.1)
def exChecker : Spec → Except Unit Spec :=
  fun s => .ok { s with cpu := { s.cpu with shares := s.cpu.shares.map (fun v => min v 512) } }

example : ResourceOnly exChecker := by
  intro s s' h; cases h; rfl

example :
    (adjustWith { filterAnnotations := some exFilter, checkResources := some exChecker } {} {}
      { annotations := [(str "internal/x", str "1"), (str "ok", str "2")],
        mounts := [{ destination := str "/m" }],
        linux := some { resources := some { cpu := some { shares := some 2048 } } } }).toOption.map
      (fun r => (r.annotations, r.cpu.shares, r.mounts.map (·.destination)))
    = some ([(str "ok", str "2")], some 512, [str "/m"]) := by decide

/-! ## The code before the repairs, and why each guard is there (concrete witnesses) -/

/-- Before /repo 1f50159 (`AdjustAnnotations` in one pass): `{"-k": "", "k": "new"}` on a spec
    holding `k` loses `k` when the map yields the set first, keeps it otherwise. -/
theorem unfixed_annotations_order_dependent :
    AList.lookup (Annotations.applyUnfixed [(str "k", str "old")] [(str "k", str "new"), (str "-k", [])]) (str "k") = none ∧
    AList.lookup (Annotations.applyUnfixed [(str "k", str "old")] [(str "-k", []), (str "k", str "new")]) (str "k")
      = some (str "new") := by decide

/-- Before /repo ad4e689: `UpdateArgs(["a","b"])` installs the marker as `argv[0]`. -/
theorem unfixed_args_marker :
    Args.applyUnfixed [str "old"] [[], str "a", str "b"] = [[], str "a", str "b"] ∧
    Args.apply [str "old"] [[], str "a", str "b"] = [str "a", str "b"] := by decide


/-- The code before /repo 6eaf34c (removals before additions): `[FOO=new, -FOO]` on a spec with `FOO`
    removes `FOO`; the repaired code keeps the set. -/
theorem unfixed_env_set_then_remove :
    Env.lookup (Env.applyUnfixed [str "FOO=old"] [⟨str "FOO", str "new"⟩, ⟨str "-FOO", []⟩]) (str "FOO") = none ∧
    Env.lookup (Env.apply [str "FOO=old"] [⟨str "FOO", str "new"⟩, ⟨str "-FOO", []⟩]) (str "FOO")
      = some (str "new") := by decide

theorem unfixed_devices_set_then_remove :
    find Oci.Device.path (str "/dev/a")
      (Devices.applyUnfixed ([{ path := str "/dev/a" }], []) [{ path := str "/dev/a", major := 7 }, { path := str "-/dev/a" }]).1
      = none ∧
    find Oci.Device.path (str "/dev/a")
      (Devices.apply ([{ path := str "/dev/a" }], []) [{ path := str "/dev/a", major := 7 }, { path := str "-/dev/a" }]).1
      = some { path := str "/dev/a", major := 7 } := by decide

theorem unfixed_mounts_set_then_remove :
    (Mounts.applyUnfixed (fun _ => []) [{ destination := str "/a" }] []
        [{ destination := str "/a", source := str "/new" }, { destination := str "-/a" }]) = .ok ([], []) ∧
    (Mounts.apply (fun _ => []) [{ destination := str "/a" }] []
        [{ destination := str "/a", source := str "/new" }, { destination := str "-/a" }])
      = .ok ([{ destination := str "/a", source := str "/new" }], []) := by
  constructor <;> rfl

/-- The repair 6eaf34c (docs/fixes/C13-1.patch) is conservative: the repaired env / device / mount loops compute what
    the code before the repair computes on the same entries with the removals moved to the
    front (stably) — so nothing changes for an adjustment that already lists removals first. -/
theorem C13_repair_conservative (s : Spec) (ext : Externals) (E : List KeyValue) (D : List LinuxDevice)
    (M : List Api.Mount) :
    adjustEnv s E = adjustEnvUnfixed s (removalsFirst KeyValue.key E) ∧
    adjustDevices s D = adjustDevicesUnfixed s (removalsFirst LinuxDevice.path D) ∧
    adjustMounts ext s M = adjustMountsUnfixed ext s (removalsFirst Api.Mount.destination M) := by
  refine ⟨?_, ?_, ?_⟩
  · unfold adjustEnv adjustEnvUnfixed; rw [Env.apply_eq_unfixed]
  · unfold adjustDevices adjustDevicesUnfixed; rw [Devices.apply_eq_unfixed]
  · unfold adjustMounts adjustMountsUnfixed; rw [Mounts.apply_eq_unfixed]

example : removalsFirst KeyValue.key [⟨str "-FOO", []⟩, ⟨str "FOO", str "v"⟩] =
    [⟨str "-FOO", []⟩, ⟨str "FOO", str "v"⟩] := by decide

/-- Finding (DESIGN §6 #10a): a requested memory limit of 0 is not applied — for every spec. -/
theorem memory_limit_zero_ignored (m : Oci.Memory) (r : LinuxMemory) (h : r.limit = some 0) :
    Resources.applyMemory m r = m := by
  unfold Resources.applyMemory; rw [h]; rfl

/-- Guard `Env.WF`: an original entry without `'='` is dropped as soon as env is adjusted. -/
theorem guard_env_noeq_dropped :
    Env.apply [str "NOEQ", str "A=1"] [⟨str "B", str "2"⟩] = [str "A=1", str "B=2"] := by decide

/-- Guard `NodupKeys`: with two devices on one path a removal deletes only the first. -/
theorem guard_duplicate_path :
    (Devices.apply ([{ path := str "/dev/a", major := 1 }, { path := str "/dev/a", major := 2 }], [])
      [{ path := str "-/dev/a" }]).1 = [{ path := str "/dev/a", major := 2 }] := by decide

/-- Guard cleaned paths: `"//"` denotes the root but is sorted after `"/%"`. -/
theorem guard_unclean_child_first :
    Mounts.cleanPath (str "//") = str "/" ∧
    Mounts.sortMounts [{ destination := str "//" }, { destination := str "/%" }] =
      [{ destination := str "/%" }, { destination := str "//" }] := by decide

end Nri.Props.C13
