import NriModel.Stub
import NriModel.Registration
import NriModel.Lemmas.StubMask
import NriModel.Lemmas.Stub
/-!
Property C15 — the stub subscribes exactly the implemented events and dispatches faithfully.

All statements are about `Nri.Stub` (model of pkg/stub/stub.go) and quantify over every
plugin type `p : Plugin` (every subset of the thirteen event handlers × the three event-less
ones), every plugin behaviour `b`, every payload type `β` and every message content.
-/
namespace Nri.Props.C15
open Nri Nri.Events Nri.Stub Nri.Lemmas.StubMask Nri.Lemmas.Stub

/-- The subscription mask is the plugin's handler set and nothing else: it is the thirteen
    handler bits zero-extended to the 32-bit mask. -/
theorem C15_mask_eq (p : Plugin) : subscribe p = p.ev.setWidth 32 := subscribe_eq p

/-- Event `e` (any number ≥ 1, also those beyond the defined thirteen) is subscribed iff it
    is one of the thirteen and the plugin type has its handler. -/
theorem C15_mask (p : Plugin) (e : Nat) (h1 : 1 ≤ e) :
    isSet (subscribe p) e = true ↔ e ≤ 13 ∧ p.ev.getLsbD (e - 1) = true := by
  rw [isSet_eq, getLsbD_subscribe]
  constructor
  · intro h
    have := BitVec.lt_of_getLsbD h
    exact ⟨by omega, h⟩
  · exact fun h => h.2

/-- The same, by handler slot: the bit of event `e` is set iff the plugin implements the
    interface that handles `e`. -/
theorem C15_mask_slot (p : Plugin) (e : Nat) (s : Slot) (hs : slotOfEvent e = some s) :
    isSet (subscribe p) e = p.has s := by
  rw [has_of_event p (slotOfEvent_event.mp hs), isSet_eq, getLsbD_subscribe]

example : isSet (subscribe ⟨0b0000000001001#13, true, false, false⟩) 4 = true ∧
          isSet (subscribe ⟨0b0000000001001#13, true, false, false⟩) 5 = false := by decide

/-- A plugin type without any event handler cannot get a stub — whatever else it implements
    (Configure, Synchronize, Shutdown) — and this is the only way creation fails. -/
theorem C15_none (p : Plugin) : p.ev = 0#13 ↔ setupHandlers p = .error .noHandlers :=
  ((setup_error_iff p).trans (subscribe_eq_zero_iff p)).symm

example : setupHandlers ⟨0#13, true, true, true⟩ = .error .noHandlers := by rfl

/-- With at least one event handler creation succeeds; the stub's mask is `subscribe p` and
    every slot of the handler table is bound to the plugin's own method for that slot
    exactly when the plugin implements it. -/
theorem C15_table (p : Plugin) (h : p.ev ≠ 0#13) :
    ∃ hd, setupHandlers p = .ok hd ∧ hd.events = subscribe p ∧
      ∀ s, hd.bound s = if p.has s = true then some s else none := by
  have hnew : setupHandlers p = .ok (setupOrder.foldl (setupStep p) Handlers.empty) := by
    rw [setupHandlers_eq, if_neg fun hz => h ((subscribe_eq_zero_iff p).mp hz)]
  exact ⟨_, hnew, events_of_new hnew, bound_of_new hnew⟩

example : (0b1000000000000#13 : BitVec 13) ≠ 0#13 := by decide

/-- Configuration. Without a `Configure` method the stub answers with its own mask and calls
    nothing. Otherwise the method is called exactly once with the configuration, runtime name
    and version the runtime sent, and: its error is passed on; an empty mask means "all I
    implement"; a mask within the implemented set is returned as asked; a mask naming any
    event without a handler is refused, naming the offending bits. -/
theorem C15_configure {β : Type} (p : Plugin) (hd : Handlers) (hnew : setupHandlers p = .ok hd)
    (b : Behaviour β) (c r v : Str) :
    configure hd b c r v =
      if p.configure = true then
        let a : Args β := .config c r v
        let asked := b .configure a
        ([⟨.configure, a⟩],
          match asked.err with
          | some msg => .error (.handler msg)
          | none =>
            if asked.events = 0#32 then .ok (subscribe p)
            else if asked.events &&& ~~~subscribe p = 0#32 then .ok asked.events
            else .error (.unhandled (asked.events &&& ~~~subscribe p)))
      else ([], .ok (subscribe p)) := by
  simp only [configure, bound_of_new hnew, events_of_new hnew, clamp_eq]
  show (match (if p.configure = true then some Slot.configure else none) with
    | none => _ | some m => _) = _
  cases p.configure
  · rfl
  · simp only [↓reduceIte]
    cases (b Slot.configure (Args.config c r v)).err <;> rfl

example : (configure (β := Nat) (setupOrder.foldl (setupStep ⟨0b11#13, true, false, false⟩) Handlers.empty)
            (fun _ _ => { events := 0b100#32 }) [] [] []).2 = .error (.unhandled 0b100#32) := by rfl

/-- Whatever the plugin asks for, a successful configuration answers with a non-empty mask
    that lies within the implemented events: every subscribed event has a handler. (A zero
    answer would be read by the runtime as "everything".) -/
theorem C15_configure_sound {β : Type} (p : Plugin) (hd : Handlers) (hnew : setupHandlers p = .ok hd)
    (b : Behaviour β) (c r v : Str) (m : Mask) (hm : (configure hd b c r v).2 = .ok m) :
    m ≠ 0#32 ∧ m &&& ~~~subscribe p = 0#32 ∧
      ∀ e, 1 ≤ e → isSet m e = true → e ≤ 13 ∧ p.ev.getLsbD (e - 1) = true := by
  obtain ⟨asked, hc⟩ := configure_ok hm
  rw [events_of_new hnew] at hc
  have key := clamp_ok hc (setup_ok hnew).2
  refine ⟨key.1, key.2, fun e h1 hset => (C15_mask p e h1).mp ?_⟩
  rw [isSet_eq] at hset ⊢
  exact (and_not_eq_zero_iff _ _).mp key.2 _ hset

/-- … and the runtime side of NRI (`(*plugin).configure`, model `Registration.configureMask`)
    accepts that answer and stores exactly it: what the runtime will relay is what the stub
    announced. -/
theorem C15_runtime_view {β : Type} (p : Plugin) (hd : Handlers) (hnew : setupHandlers p = .ok hd)
    (b : Behaviour β) (c r v : Str) (m : Mask) (hm : (configure hd b c r v).2 = .ok m) :
    Registration.configureMask m = .ok m := by
  obtain ⟨hne, hsub, _⟩ := C15_configure_sound p hd hnew b c r v m hm
  have hv : m &&& ~~~valid = 0#32 := by
    rw [and_not_eq_zero_iff]
    intro i hi
    have := (and_not_eq_zero_iff _ _).mp hsub i hi
    rw [getLsbD_subscribe] at this
    simpa [getLsbD_valid] using BitVec.lt_of_getLsbD this
  simp [Registration.configureMask, hne, hv]

/-- Dispatch. For each of the thirteen events, the request the runtime sends for it invokes
    exactly one plugin method — the one for that event, with exactly the parts of the message
    that handler is to receive — if the plugin type implements it, and nothing otherwise.
    This does not depend on what was subscribed at configuration time. -/
theorem C15_dispatch {β : Type} (p : Plugin) (hd : Handlers) (hnew : setupHandlers p = .ok hd)
    (b : Behaviour β) (d : Dyn β) (e : Nat) (s : Slot) (hs : slotOfEvent e = some s) (m : Msg β) :
    (dispatch hd b d (requestFor e m)).calls =
      if p.has s = true then [⟨s, argsFor e m⟩] else [] := by
  rw [dispatch_event hnew b d hs m]
  split <;> rfl

example : (dispatch (β := Nat) (setupOrder.foldl (setupStep ⟨0b1000000000#13, false, false, false⟩) Handlers.empty)
            (fun _ _ => {}) {} (requestFor 10 ⟨some 1, some 2, some 3, some 4⟩)).calls =
          [⟨.stopContainer, .podCtr (some 1) (some 2)⟩] := by decide

/-- Pass-through. The runtime sees the handler's adjustment and updates exactly as returned,
    or — when the handler fails — its error and nothing else; without a handler it sees the
    empty reply. -/
theorem C15_passthrough {β : Type} (p : Plugin) (hd : Handlers) (hnew : setupHandlers p = .ok hd)
    (b : Behaviour β) (d : Dyn β) (e : Nat) (s : Slot) (hs : slotOfEvent e = some s) (m : Msg β) :
    (dispatch hd b d (requestFor e m)).result =
      if p.has s = true then
        match (b s (argsFor e m)).err with
        | some msg => .error (.handler msg)
        | none => .ok (replyFor e (b s (argsFor e m)))
      else .ok (emptyReplyFor e) := by
  rw [dispatch_event hnew b d hs m]
  split
  · cases herr : (b s (argsFor e m)).err <;> simp [reply, herr]
  · rfl

example : (dispatch (β := Nat) (setupOrder.foldl (setupStep ⟨0b1000#13, false, false, false⟩) Handlers.empty)
            (fun _ _ => { adjust := some 7, updates := [8, 9] }) {} (requestFor 4 ⟨some 1, some 2, none, none⟩)).result =
          .ok (.createContainer (some 7) [8, 9]) := by rfl

/-- A `StateChange` notification carrying anything but one of the nine notification events
    (the unknown event 0, numbers beyond the last, or one of the four request-type events that
    have their own RPC) invokes nothing and is answered with an empty reply. -/
theorem C15_foreign_event {β : Type} (hd : Handlers) (b : Behaviour β) (d : Dyn β) (e : Nat)
    (pod ctr : Option β)
    (he : e = 0 ∨ e = 4 ∨ e = 8 ∨ e = 10 ∨ e = 12 ∨ 14 ≤ e) :
    (dispatch hd b d (.stateChange e pod ctr)).calls = [] ∧
    (dispatch hd b d (.stateChange e pod ctr)).result = .ok .stateChange := by
  have : stateChange hd b d e pod ctr = ⟨[], .ok .stateChange, d⟩ := by
    rcases he with rfl | rfl | rfl | rfl | rfl | he
    iterate 5 rfl
    unfold stateChange
    split <;> first | omega | rfl
  exact ⟨congrArg Outcome.calls this, congrArg Outcome.result this⟩

/-- Dispatch never touches the stub's mutable state, except Configure (timeouts) and
    Synchronize (collected chunks). -/
theorem C15_dispatch_pure {β : Type} (p : Plugin) (hd : Handlers) (hnew : setupHandlers p = .ok hd)
    (b : Behaviour β) (d : Dyn β) (e : Nat) (s : Slot) (hs : slotOfEvent e = some s) (m : Msg β) :
    (dispatch hd b d (requestFor e m)).dyn = d := by
  rw [dispatch_event hnew b d hs m]
  split <;> rfl

/-- Split synchronisation: however the runtime cuts the state into `More` chunks, the plugin's
    `Synchronize` is invoked exactly once, with all pods and all containers in the order sent,
    when the final chunk arrives; the chunks before it are acknowledged with `More` and no
    updates; the final reply carries the handler's updates or error; nothing stays collected. -/
theorem C15_sync {β : Type} (p : Plugin) (hd : Handlers) (hnew : setupHandlers p = .ok hd)
    (hp : p.synchronize = true) (b : Behaviour β) (d : Dyn β) (hd0 : d.syncReq = none)
    (chunks : List (List β × List β)) (pods ctrs : List β) :
    let reqs := chunks.map (fun c => Request.synchronize c.1 c.2 true) ++ [Request.synchronize pods ctrs false]
    let a : Args β := .sync (podsOf chunks ++ pods) (ctrsOf chunks ++ ctrs)
    let outs := run hd b d reqs
    (outs.map (·.calls)).flatten = [⟨.synchronize, a⟩] ∧
    outs.length = chunks.length + 1 ∧
    (∀ o ∈ outs.take chunks.length, o.result = .ok (.synchronize [] true)) ∧
    (outs.getLast?.map (·.result)) = some (reply (b .synchronize a) (.synchronize (b .synchronize a).updates false)) ∧
    (outs.getLast?.map (·.dyn.syncReq)) = some none := by
  intro reqs a outs
  have hm : hd.bound .synchronize = some .synchronize := by
    rw [bound_of_new hnew]; simp [Plugin.has, hp]
  obtain ⟨pre, d', hrun, hall, hcol⟩ :=
    run_collect hm b chunks (.synchronize pods ctrs false) d
  have hlen : pre.length = chunks.length := by
    have := congrArg List.length hrun
    simpa [run_length] using this.symm
  have hacc : accumulate d'.syncReq pods ctrs = (podsOf chunks ++ pods, ctrsOf chunks ++ ctrs) := by
    rw [accumulate_eq, hcol, hd0]
    rfl
  have houts : outs = pre ++ [⟨[⟨.synchronize, a⟩],
      reply (b .synchronize a) (.synchronize (b .synchronize a).updates false), { d' with syncReq := none }⟩] := by
    rw [dispatch_last hm, hacc] at hrun
    exact hrun
  have hcalls : (pre.map (·.calls)).flatten = [] :=
    List.flatten_eq_nil_iff.mpr fun l hl => by
      obtain ⟨o, ho, rfl⟩ := List.mem_map.mp hl
      exact (hall o ho).1
  refine ⟨?_, ?_, ?_, ?_, ?_⟩
  · simp [houts, hcalls]
  · simp [houts, hlen]
  · intro o ho
    rw [houts, ← hlen, List.take_left' rfl] at ho
    exact (hall o ho).2
  · simp [houts]
  · simp [houts]

example : (run (β := Nat) (setupOrder.foldl (setupStep ⟨1#13, false, true, false⟩) Handlers.empty)
            (fun _ _ => {}) {} [.synchronize [1] [10] true, .synchronize [2] [] true, .synchronize [] [11] false]).map (·.calls) =
          [[], [], [⟨.synchronize, .sync [1, 2] [10, 11]⟩]] := by decide

/-- Without a `Synchronize` method every chunk is acknowledged by echoing `More`, with no
    updates and no call. -/
theorem C15_sync_none {β : Type} (p : Plugin) (hd : Handlers) (hnew : setupHandlers p = .ok hd)
    (hp : p.synchronize = false) (b : Behaviour β) (d : Dyn β) (pods ctrs : List β) (more : Bool) :
    (dispatch hd b d (.synchronize pods ctrs more)).calls = [] ∧
    (dispatch hd b d (.synchronize pods ctrs more)).result = .ok (.synchronize [] more) ∧
    (dispatch hd b d (.synchronize pods ctrs more)).dyn = d := by
  have hm : hd.bound .synchronize = none := by
    rw [bound_of_new hnew]; simp [Plugin.has, hp]
  simp [dispatch, synchronize, hm]

/-- Shutdown invokes the plugin's `Shutdown` once if there is one, and always succeeds. -/
theorem C15_shutdown {β : Type} (p : Plugin) (hd : Handlers) (hnew : setupHandlers p = .ok hd)
    (b : Behaviour β) (d : Dyn β) :
    (dispatch hd b d .shutdown).calls = (if p.shutdown = true then [⟨.shutdown, .none⟩] else []) ∧
    (dispatch hd b d .shutdown).result = .ok .shutdown := by
  have hb := bound_of_new hnew .shutdown
  cases hp : p.shutdown with
  | false => have : p.has .shutdown = false := hp; simp [dispatch, hb, this]
  | true => have : p.has .shutdown = true := hp; simp [dispatch, hb, this]

/-- Restart invariance. Reuse one stub for any number of sessions (Start, configuration,
    requests, Stop or connection loss, Start again …): everything visible of a session — the
    Configure invocation and its answer (the subscription), every handler invocation and every
    reply — is what a freshly created stub of the same plugin type would show in that session.
    It is independent of ALL earlier sessions: of the masks asked for, the timeouts passed, the
    errors returned and the requests handled. The handler table with the implemented-events
    mask is not changed by use. (The stub must have been created with a positive registration
    timeout — `New` sets 5 s — and nothing half-collected.) -/
theorem C15_restart_invariant {β : Type} (hd : Handlers) (d : Dyn β) (hd0 : d.syncReq = none)
    (hp : 0 < d.regTimeoutNs) (pre : List (Session β)) (s : Session β) :
    (∃ o, (runSessions ⟨hd, d⟩ (pre ++ [s])).1.getLast? = some o ∧
          o.visible = (runSession ⟨hd, {}⟩ s).1.visible) ∧
    (runSessions ⟨hd, d⟩ (pre ++ [s])).2.handlers = hd := by
  have hst := runSessions_state ⟨hd, d⟩ pre
  refine ⟨⟨(runSession (runSessions ⟨hd, d⟩ pre).2 s).1, ?_, ?_⟩, (runSessions_state ⟨hd, d⟩ (pre ++ [s])).1⟩
  · rw [runSessions_append]
    simp only [List.getLast?_append, List.getLast?_singleton, Option.some_or]
  · exact runSession_equiv _ ⟨hd, {}⟩ hst.1 (hst.2.1 hd0) (hst.2.2 hp) (show (0 : Int) < 5000000000 by decide) s

/-- In particular the configuration of a later session is the one `C15_configure` describes in
    terms of the plugin type alone: Configure is invoked (registration cannot fail on a zero
    deadline), an empty request again means everything implemented, a subset of the implemented
    events is granted even if an earlier session asked for less, an unimplemented event is
    refused. -/
theorem C15_restart_configure {β : Type} (p : Plugin) (hd : Handlers) (hnew : setupHandlers p = .ok hd)
    (d : Dyn β) (hd0 : d.syncReq = none) (hp : 0 < d.regTimeoutNs) (pre : List (Session β)) (s : Session β) :
    ∃ o, (runSessions ⟨hd, d⟩ (pre ++ [s])).1.getLast? = some o ∧
      o.cfg.visible =
        ((configure hd s.cfgB s.config s.runtime s.version).1,
         (configure hd s.cfgB s.config s.runtime s.version).2.map Reply.configure) ∧
      (p.configure = true → (s.cfgB .configure (.config s.config s.runtime s.version)).err = none →
        (s.cfgB .configure (.config s.config s.runtime s.version)).events = 0#32 →
        o.cfg.result = .ok (.configure (subscribe p))) := by
  obtain ⟨⟨o, hlast, hvis⟩, _⟩ := C15_restart_invariant hd d hd0 hp pre s
  have hcfg : o.cfg.visible = _ :=
    (congrArg Prod.fst hvis).trans
      (congrArg Outcome.visible (runSession_cfg ⟨hd, {}⟩ s (show (0 : Int) < 5000000000 by decide)))
  refine ⟨o, hlast, hcfg, fun hpc herr hz => ?_⟩
  rw [show o.cfg.result = _ from congrArg Prod.snd hcfg]
  show (configure hd s.cfgB s.config s.runtime s.version).2.map Reply.configure = _
  rw [C15_configure p hd hnew]
  simp [hpc, herr, hz, Except.map]

example : ((runSessions (β := Nat) ⟨setupOrder.foldl (setupStep ⟨0b111#13, true, false, false⟩) Handlers.empty, {}⟩
            [ ⟨fun _ _ => { events := 0b001#32 }, [], [], [], 0, 1, []⟩,
              ⟨fun _ _ => { events := 0#32 }, [], [], [], 1, 0, []⟩,
              ⟨fun _ _ => { events := 0b110#32 }, [], [], [], 1, 1, []⟩ ]).1.map (·.cfg.result)) =
          [.ok (.configure 0b001#32), .ok (.configure 0b111#32), .ok (.configure 0b110#32)] := by rfl

/-- Timeouts are sticky. Configure takes over (as nanoseconds) exactly the timeouts the runtime
    passes (> 0 ms) and keeps the stub's current value for each one it does not; no other
    request touches them; and the registration timeout therefore stays positive through any
    sequence of sessions, so that the stub can always register again. -/
theorem C15_timeouts_sticky {β : Type} (hd : Handlers) (b : Behaviour β) (d : Dyn β) :
    (∀ c r v regMs reqMs,
      (dispatch hd b d (.configure c r v regMs reqMs)).dyn.regTimeoutNs =
        (if regMs > 0 then regMs * 1000000 else d.regTimeoutNs) ∧
      (dispatch hd b d (.configure c r v regMs reqMs)).dyn.reqTimeoutNs =
        (if reqMs > 0 then reqMs * 1000000 else d.reqTimeoutNs)) ∧
    (∀ e s (m : Msg β), slotOfEvent e = some s →
      (dispatch hd b d (requestFor e m)).dyn.regTimeoutNs = d.regTimeoutNs ∧
      (dispatch hd b d (requestFor e m)).dyn.reqTimeoutNs = d.reqTimeoutNs) ∧
    (0 < d.regTimeoutNs → ∀ ss : List (Session β), 0 < (runSessions ⟨hd, d⟩ ss).2.dyn.regTimeoutNs) := by
  refine ⟨fun c r v regMs reqMs => ?_, fun e s m hs => ?_, fun hp ss => (runSessions_state ⟨hd, d⟩ ss).2.2 hp⟩
  · exact ⟨rfl, rfl⟩
  · rw [dispatch_requestFor hd b d hs]
    cases hd.bound s <;> exact ⟨rfl, rfl⟩

example : (dispatch (β := Nat) Handlers.empty (fun _ _ => {}) {} (.configure [] [] [] 0 7)).dyn.regTimeoutNs = 5000000000 ∧
          (dispatch (β := Nat) Handlers.empty (fun _ _ => {}) {} (.configure [] [] [] 0 7)).dyn.reqTimeoutNs = 7000000 := by decide

/-- Witness for the defect repaired by fix 31d2c1d (the unrepaired `Configure` overwrote both
    timeouts unconditionally): a runtime that passes no registration timeout in the first session
    leaves the stub with a zero one, the second `Start` cannot register, and the plugin's
    `Configure` is never invoked again — whereas the repaired stub configures both times. -/
theorem unfixed_zero_registration_timeout_blocks_restart :
    let hd := setupOrder.foldl (setupStep ⟨0b11#13, true, false, false⟩) Handlers.empty
    let s1 : Session Nat := ⟨fun _ _ => { events := 0b01#32 }, [], [], [], 0, 2000, []⟩
    let s2 : Session Nat := ⟨fun _ _ => { events := 0#32 }, [], [], [], 5000, 2000, []⟩
    ((runSessionsUnfixed ⟨hd, {}⟩ [s1, s2]).1.map (·.cfg.calls) =
        [[⟨.configure, .config [] [] []⟩], []]) ∧
    ((runSessions ⟨hd, {}⟩ [s1, s2]).1.map (·.cfg.calls) =
        [[⟨.configure, .config [] [] []⟩], [⟨.configure, .config [] [] []⟩]]) := by
  decide

end Nri.Props.C15
