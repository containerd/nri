import NriModel.Lemmas.StubSession
import NriModel.Lemmas.StubSessionTrace
import NriModel.Lemmas.StubSessionAny
import NriModel.Lemmas.StubSessionStart
/-!
Property C16 — starting, stopping and restarting the stub terminates and leaves it usable.

Theorems about the session machine `Nri.StubSession` (`NriModel/StubSession.lean`), variant
`fixed` = `/repo/pkg/stub/stub.go` with `docs/fixes/C16-1.patch` applied. `Reach s`: `s` is
reached from the initial state by ANY history of Start (with any behaviour of the runtime
end except `stall`), Stop, Wait, connection loss, close notifications in any order and at
any time, and requests from the runtime end. The `unfixed_*` theorems are witnesses on the
transcription of the code before the patch.

What is NOT proved here: bounded *time*. "Returns" means: the step is enabled and its
result is not `blocked`; that the real calls return within a deadline is measured by the
harness on every run.
-/
namespace Nri.Props.C16
open Nri.StubSession

/-- Start always returns: in every reachable state and for every behaviour of the runtime
    end inside the domain, a `Start` call has a result, no possible result is `blocked`
    (the stub is never wedged), the result is `ok` only if the runtime end delivered the
    Configure request (scripts `ok`, `dropLate`), and then the stub is started with the new
    session established; otherwise it is an error. -/
theorem C16_start_returns {s : State} (hr : Reach s) (o : Script) (ho : o ≠ .stall) :
    s.wedged = false ∧
    (∃ r s', r ≠ .blocked ∧ step? fixed s (.start o r) = some s') ∧
    (∀ s', step? fixed s (.start o .blocked) ≠ some s') ∧
    (∀ r s', step? fixed s (.start o r) = some s' → r = .ok →
        (o = .ok ∨ o = .dropLate) ∧ s'.started = true ∧ s'.cur = s.cur + 1 ∧ s'.cur ∈ s'.estab) := by
  have hg := hr.good
  have hnb {s'} (h : step? fixed s (.start o .blocked) = some s') : False :=
    ho (start_cases hg.connNone (step_start hg.notWedged o _ ▸ h))
  refine ⟨hg.notWedged, ?_, fun _ => hnb, ?_⟩
  · obtain ⟨r, hr'⟩ := List.exists_mem_of_ne_nil _ (startPossible_ne_nil s o)
    obtain ⟨s', hs'⟩ := Option.isSome_iff_exists.mp ((start_iff hg.notWedged hg.connNone o r).mpr hr')
    exact ⟨r, s', fun hb => hnb (hb ▸ hs'), hs'⟩
  · rintro r s' h rfl
    obtain ⟨_, pre, ⟨h0, rfl⟩ | ⟨h0, rfl⟩⟩ := start_cases hg.connNone (step_start hg.notWedged o _ ▸ h)
    · exact ⟨.inl h0, rfl, rfl, mem_snoc.mpr (.inr rfl)⟩
    · exact ⟨.inr h0, rfl, rfl, mem_snoc.mpr (.inr rfl)⟩

/-- the hypotheses of `C16_start_returns` hold in a non-trivial state: after a handshake
    dropped between registration and configuration and a session that was established,
    lost, and whose close notification is still in flight -/
example : ∃ s, Reach s ∧ s.started = true ∧ s.inflight = [1, 2] ∧ s.dead = [1, 2] :=
  ⟨_, ⟨.dialer, [.start .dropCfg (.err .closed), .start .ok .ok, .connLost], by decide, rfl⟩, rfl, rfl, rfl⟩

/-- Wait returns after a failed start, a stop, or a lost connection: the `doneC` of every
    session that is over is closed (a `Wait` blocked on it is released); `Stop` is always
    enabled and leaves the stub not started; a failed `Start` leaves it not started; a
    connection loss puts the session's close notification in flight, that notification is
    enabled, and when it runs the stub is not started; and whenever the stub is not started
    `Wait` returns at once. -/
theorem C16_wait_returns {s : State} (hr : Reach s) :
    (∀ sid, ended s sid → sid ∈ s.done) ∧
    (s.started = false → step? fixed s (.wait true) = some s) ∧
    (step? fixed s .stop = some (closeStub s) ∧ (closeStub s).started = false) ∧
    (∀ o k s', step? fixed s (.start o (.err k)) = some s' → k ≠ .already → s'.started = false) ∧
    (∀ s', step? fixed s .connLost = some s' → s'.cur = s.cur ∧ s'.cur ∈ s'.inflight) ∧
    (∀ sid, sid ∈ s.inflight → ∃ s', step? fixed s (.closeNotify sid) = some s' ∧
        (sid = s.cur → s'.started = false)) := by
  have hg := hr.good
  have hw := hg.notWedged
  refine ⟨?_, ?_, ?_, ?_, ?_, ?_⟩
  · intro sid ⟨h1, h2, h3⟩; exact hg.endedDone sid h1 h2 h3
  · intro hs; simp [step?, hw, hs]
  · exact ⟨by simp [step?, hw], closeStub_started s⟩
  · intro o k s' h hk
    exact start_err_not_started hw hg.connNone h hk
  · intro s' h
    simp only [step?, hw, Bool.not_false, Bool.true_and] at h
    split at h
    · next ha =>
      cases h
      exact ⟨rfl, mem_closeClient.mpr (.inr ⟨rfl, (alive_iff.mp ha).2.2⟩)⟩
    · cases h
  · intro sid hin
    refine ⟨_, step_closeNotify hw hin, fun hc => ?_⟩
    simp only [if_pos hc]
    exact closeStub_started s

/-- non-vacuity: a state with an ended session, an inflight notification of the current
    session (connection lost) -/
example : ∃ s, Reach s ∧ ended s 1 ∧ s.cur ∈ s.inflight ∧ s.started = true :=
  ⟨_, ⟨.dialer, [.start .refuse (.err .register), .start .ok .ok, .connLost], by decide, rfl⟩,
    by decide, by decide, by decide⟩

/-- onClose fires exactly once per session: never twice; for every session that is over the
    callback has either run once or its one notification is still in flight; nothing has
    fired or is pending for a live session; and the pending notifications can always all be
    delivered (in list order), after which every session that is over has fired exactly
    once. -/
theorem C16_onclose_once {s : State} (hr : Reach s) :
    (∀ sid, s.fired.count sid ≤ 1) ∧
    (∀ sid, ended s sid → s.fired.count sid + s.inflight.count sid = 1) ∧
    (alive s = true → s.fired.count s.cur = 0 ∧ s.inflight.count s.cur = 0) ∧
    (∃ s', run fixed s (s.inflight.map .closeNotify) = some s' ∧ Reach s' ∧ s'.inflight = [] ∧
        ∀ sid, ended s' sid → s'.fired.count sid = 1) := by
  have hg := hr.good
  refine ⟨?_, ?_, ?_, ?_⟩
  · exact List.nodup_iff_count.mp hg.firedNodup
  · intro sid ⟨h1, h2, h3⟩
    rw [hg.firedNodup.count, hg.inflNodup.count]
    rcases hg.endedClosed sid h1 h2 h3 with hi | hf
    · rw [if_neg (hg.disj sid hi), if_pos hi]
    · rw [if_pos hf, if_neg fun hi => hg.disj sid hi hf]
  · intro ha
    obtain ⟨_, hi, hf⟩ := alive_iff.mp ha
    exact ⟨List.count_eq_zero.mpr hf, List.count_eq_zero.mpr hi⟩
  · obtain ⟨s', h1, h2, h3⟩ := drain hr
    refine ⟨s', h1, h2, h3, ?_⟩
    intro sid ⟨h4, h5, h6⟩
    have hg' := h2.good
    rw [hg'.firedNodup.count]
    have := hg'.endedClosed sid h4 h5 h6
    simp [h3] at this
    simp [this]

/-- non-vacuity: three sessions over (one fired, two in flight), none live -/
example : ∃ s, Reach s ∧ ended s 1 ∧ ended s 3 ∧ s.inflight = [2, 3] ∧ s.fired = [1] :=
  ⟨_, ⟨.dialer, [.start .ok .ok, .stop, .closeNotify 1, .start .cfgErr (.err .configure), .start .ok .ok,
        .stop], by decide, rfl⟩, by decide, by decide, rfl, rfl⟩

/-- Restartable: whenever the stub is not started (after a failed start, a stop, or the
    close notification of a lost session — see `C16_wait_returns`) and its connection source
    is not a consumed environment descriptor, a `Start` against a healthy runtime end returns
    ok — and nothing else (`r = .ok` is forced) — on a connection obtained by that very call
    and not closed, with a new session, and requests from the runtime end are answered (and
    cannot fail). -/
theorem C16_restartable {s : State} (hr : Reach s) (hs : s.started = false)
    (hsrc : s.src = .envFd → s.preUsed = false) :
    (∃ s', step? fixed s (.start .ok .ok) = some s') ∧
    (∀ r s', step? fixed s (.start .ok r) = some s' →
      r = .ok ∧ s'.started = true ∧
      s'.conn = some (s.dials + 1) ∧ s'.dials = s.dials + 1 ∧ s.dials + 1 ∉ s'.dead ∧
      s'.cur = s.cur + 1 ∧ alive s' = true ∧
      step? fixed s' (.dispatch true) = some s' ∧ step? fixed s' (.dispatch false) = none) := by
  have hg := hr.good
  have hw := hg.notWedged
  have hd := hg.deadRng.succ_not_mem
  have h1 := hg.inflRng.succ_not_mem
  have h2 := hg.firedRng.succ_not_mem
  have hposs : startPossible s .ok = [.ok] := by
    unfold startPossible startResults
    simp only [hs, Bool.false_eq_true, if_false]
    split
    · rename_i h; exact absurd (hsrc h.1) (by simp [h.2])
    · split <;> simp
  constructor
  · have := (start_iff hw hg.connNone .ok .ok).mpr (by simp [hposs])
    exact Option.isSome_iff_exists.mp this
  · intro r s' h
    have hr' : r = .ok := by
      have := (start_iff hw hg.connNone .ok r).mp (by simp [h])
      simpa [hposs] using this
    subst hr'
    obtain ⟨_, pre, ⟨_, rfl⟩ | ⟨h0, _⟩⟩ := start_cases hg.connNone (step_start hw .ok _ ▸ h)
    · simp [establish, fresh, alive, step?, hd, h1, h2]
    · cases h0

/-- … and from ANY reachable state of a stub that connects through the dialer (or was handed
    a connection with `WithConnection`) a not-started state is one `Stop` away, so the sequence
    Stop, Start (healthy runtime end), request is always possible and ends with the stub
    started. -/
theorem C16_restartable_from_any {s : State} (hr : Reach s) (hsrc : s.src ≠ .envFd) :
    ∃ s', run fixed s [.stop, .start .ok .ok, .dispatch true] = some s' ∧ s'.started = true ∧
      alive s' = true := by
  have hw := hr.good.notWedged
  have h1 : step? fixed s .stop = some (closeStub s) := by simp [step?, hw]
  have hr1 : Reach (closeStub s) := hr.step (by rfl) h1
  have hs1 := closeStub_started s
  have hsrc1 : (closeStub s).src = .envFd → (closeStub s).preUsed = false := by
    intro h; exfalso; apply hsrc; revert h; unfold closeStub; split <;> simp [closeClient, markDead]
  obtain ⟨⟨s', h2⟩, h3⟩ := C16_restartable hr1 hs1 hsrc1
  obtain ⟨_, h4, _, _, _, _, h5, h6, _⟩ := h3 .ok s' h2
  exact ⟨s', by simp [run, h1, h2, h6], h4, h5⟩

example : ∃ s, Reach s ∧ s.started = false ∧ s.inflight = [1, 2] :=
  ⟨_, ⟨.dialer, [.start .dropReg (.err .register), .start .dropLate .ok, .stop], by decide, rfl⟩, rfl, rfl⟩

/-- A late close notification of an earlier session leaves the current session untouched:
    it only records that `onClose` ran for that earlier session. -/
theorem C16_stale_notify {s : State} (hr : Reach s) (sid : Nat) (hin : sid ∈ s.inflight)
    (hne : sid ≠ s.cur) :
    step? fixed s (.closeNotify sid) =
      some { s with inflight := s.inflight.erase sid, fired := s.fired ++ [sid] } := by
  simp only [step_closeNotify hr.good.notWedged hin, if_neg hne]

/-- Consequently an established, live session ends only by `Stop` or by the loss of its own
    connection: every other step (any `Start`, `Wait`, requests, the close notification of
    ANY session) leaves it the current session, started and alive. -/
theorem C16_live_session_stable {s s' : State} {e : Event} (hr : Reach s) (ha : alive s = true)
    (h : step? fixed s e = some s') (h1 : e ≠ .stop) (h2 : e ≠ .connLost) :
    alive s' = true ∧ s'.cur = s.cur ∧ s'.started = true ∧ s'.conn = s.conn := by
  obtain ⟨hs, hi, hf⟩ := alive_iff.mp ha
  revert h h1 h2
  fun_cases step? fixed s e <;> intro h h1 h2
  case case2 =>  -- start
    rcases startStep_cases h with ⟨rfl, _⟩ | ⟨hs', _⟩
    · exact ⟨ha, rfl, hs, rfl⟩
    · exact absurd (hs.symm.trans hs') nofun
  -- the refused events go; in the others `s'` becomes the next state
  all_goals cases h
  case case4 => exact absurd rfl h1  -- stop
  case case5 => exact absurd rfl h2  -- connLost
  case case8 sid hin s1 =>  -- closeNotify
    simp only [Bool.or_eq_true, not_or, Bool.not_eq_true', decide_eq_false_iff_not,
      Decidable.not_not] at hin
    have hne : sid ≠ s.cur := fun e => hi (e ▸ hin.2)
    simp only [s1, fixed, Bool.not_true, Bool.false_or, decide_eq_true_eq, if_neg hne]
    exact ⟨alive_iff.mpr ⟨hs, fun hx => hi (List.mem_of_mem_erase hx),
      fun hx => (mem_snoc.mp hx).elim hf (fun e => hne e.symm)⟩, trivial, hs, trivial⟩
  case case10 => exact ⟨ha, rfl, hs, rfl⟩  -- wait true
  case case12 => exact ⟨ha, rfl, hs, rfl⟩  -- wait false
  case case14 => exact ⟨ha, rfl, hs, rfl⟩  -- waitRet
  case case16 => exact ⟨ha, rfl, hs, rfl⟩  -- dispatch

/-- non-vacuity: session 2 is live while the notification of session 1 is still in flight -/
example : ∃ s, Reach s ∧ 1 ∈ s.inflight ∧ 1 ≠ s.cur ∧ alive s = true :=
  ⟨_, ⟨.dialer, [.start .ok .ok, .stop, .start .ok .ok], by decide, rfl⟩, by decide, by decide, by decide⟩

/-- The results of `Start` are EXACTLY `startPossible s o`: "already started" when started;
    otherwise the results `startResults` lists for the runtime end's behaviour (for a healthy
    runtime end: `ok` and nothing else; for a refusal: a registration error and nothing else;
    …); for a stub whose environment descriptor is used up: an error and nothing else. -/
theorem C16_start_results {s : State} (hr : Reach s) (o : Script) (r : StartRes) :
    (∃ s', step? fixed s (.start o r) = some s') ↔ r ∈ startPossible s o := by
  have hg := hr.good
  rw [← start_iff hg.notWedged hg.connNone o r, Option.isSome_iff_exists]

/-- in particular: a not-started stub started against a healthy runtime end cannot fail -/
theorem C16_restart_only_ok {s s' : State} {r : StartRes} (hr : Reach s) (hs : s.started = false)
    (hsrc : s.src = .envFd → s.preUsed = false)
    (h : step? fixed s (.start .ok r) = some s') : r = .ok :=
  ((C16_restartable hr hs hsrc).2 r s' h).1

example : ∃ s, Reach s ∧ s.started = false ∧ startPossible s .dropLate = [.ok, .err .register, .err .closed] :=
  ⟨_, ⟨.dialer, [.start .cfgErr (.err .register)], by decide, rfl⟩, rfl, by decide⟩

/-- `Wait` returns at once exactly when the stub is not started, and blocks exactly when it
    is started: a not-started stub never blocks a `Wait` (`wait false` is impossible), a
    started one never lets it through (`wait true` is impossible). A blocking `Wait` is
    recorded as blocked on the current session. -/
theorem C16_wait_outcome {s : State} (hr : Reach s) :
    (s.started = false → step? fixed s (.wait true) = some s ∧ step? fixed s (.wait false) = none) ∧
    (s.started = true → step? fixed s (.wait true) = none ∧
      step? fixed s (.wait false) = some { s with waiting := s.waiting ++ [s.cur] }) := by
  have hg := hr.good
  have hw := hg.notWedged
  constructor
  · intro hs; simp [step?, hw, hs]
  · intro hs
    have hnd : s.cur ∉ s.done := fun hm => nomatch hs.symm.trans (hg.curDone hm)
    simp [step?, hw, hs, hnd]

example : ∃ s, Reach s ∧ s.started = true ∧ s.waiting = [1] :=
  ⟨_, ⟨.dialer, [.start .ok .ok, .wait false], by decide, rfl⟩, rfl, rfl⟩

/-- A blocked `Wait` is released exactly when the session it waits on is over: while that
    session is the live one its return is impossible; once the session is over (stopped,
    lost and notified, or torn down by a failed restart) its return is enabled; and when the
    stub is not started ALL blocked `Wait` calls can return, after which none is blocked. -/
theorem C16_wait_released {s : State} (hr : Reach s) :
    (∀ sid, sid ∈ s.waiting → 1 ≤ sid ∧ sid ≤ s.cur) ∧
    (∀ sid, sid ∈ s.waiting → ended s sid →
      step? fixed s (.waitRet sid) = some { s with waiting := s.waiting.erase sid }) ∧
    (∀ sid, sid = s.cur → s.started = true → step? fixed s (.waitRet sid) = none) ∧
    (∀ sid, sid ∉ s.waiting → step? fixed s (.waitRet sid) = none) ∧
    (s.started = false → ∃ s', run fixed s (s.waiting.map .waitRet) = some s' ∧ s'.waiting = [] ∧
      Reach s' ∧ s'.started = false) := by
  have hg := hr.good
  have hret {t : State} (ht : Reach t) {sid : Nat} (hin : sid ∈ t.waiting) (he : ended t sid) :
      step? fixed t (.waitRet sid) = some { t with waiting := t.waiting.erase sid } := by
    simp [step?, hin, ht.good.endedDone sid he.1 he.2.1 he.2.2]
  refine ⟨hg.waitingRng, fun sid => hret hr, ?_, ?_, ?_⟩
  · intro sid hc hs
    have hnd : s.cur ∉ s.done := fun hm => nomatch hs.symm.trans (hg.curDone hm)
    simp [step?, hc, hnd]
  · intro sid hn; simp [step?, hn]
  · intro hs
    obtain ⟨s', h1, ⟨h2, h3⟩, h4⟩ := run_drain (v := fixed) (P := fun t => Reach t ∧ t.started = false)
      (f := (·.waiting)) (ev := .waitRet) (fun t x ⟨ht, hts⟩ hin =>
        have hx := ht.good.waitingRng x hin
        have h1 := hret ht hin ⟨hx.1, hx.2, .inr hts⟩
        ⟨_, h1, ⟨ht.step rfl h1, hts⟩, rfl⟩) ⟨hr, hs⟩
    exact ⟨s', h1, h4, h2, h3⟩

example : ∃ s, Reach s ∧ s.waiting = [1, 1] ∧ ended s 1 :=
  ⟨_, ⟨.dialer, [.start .ok .ok, .wait false, .wait false, .connLost, .closeNotify 1], by decide, rfl⟩,
    rfl, by decide⟩

/-- The acceptance automaton of the driver (`closure`: deliver pending notifications in any
    order, let the pending observed operation take effect) derives only reachable states from
    reachable states: whatever observed history it accepts is explained by a run of the
    repaired machine, and every theorem above applies to every configuration it holds. -/
theorem C16_trace_sound (p : Option OpObs) (hp : ∀ pd, p = some pd → pd.inDomain = true)
    (fuel : Nat) (cs : List Cfg) (h : AllCfg Reach cs) : AllCfg Reach (closure p cs fuel) :=
  closure_sound (D := (inDomain · = true)) (fun hs hd he => hs.step hd he) (fun _ => rfl)
    (fun hpd hd => hd (hp _ hpd)) fuel cs h

/-- non-vacuity: the automaton's start configuration; and a closure that really moves (the
    pending Stop applied, then the notification it caused delivered) -/
example : AllCfg Reach [{ s := init, applied := true }] := by
  intro c hc; simp at hc; subst hc; exact init_reach .dialer
example : (closure (some .stop)
    [{ s := (establish (fresh false init)), applied := false }] 8).length = 3 := by decide

/-- Label faithfulness of the acceptance automaton: whatever state it derives for an observed
    operation is the result of the model step carrying exactly the observed label — the
    observed runtime behaviour and result for `Start` (from a state where the model predicts
    the observed dial, session and connection numbers), `stop`, `wait b`, `dispatch ok`; a late
    `Wait` return only by a `waitRet` of a session a `Wait` is blocked on; an `impossible`
    observation (blocked Stop/Wait, unknown error kind) by nothing; and a pending operation
    takes effect at most once (only from `applied = false` to `applied = true`). -/
theorem C16_trace_faithful :
    (∀ o r d sid conn s s', s' ∈ applyObs (.start o r d sid conn) s →
      step? fixed s (.start o r) = some s' ∧ wouldDial s = d ∧
      (if s'.cur = s.cur + 1 then s'.cur else 0) = sid ∧
      (if s'.dials = s.dials + 1 then s'.dials else 0) = conn) ∧
    (∀ s s', s' ∈ applyObs .stop s → step? fixed s .stop = some s') ∧
    (∀ b s s', s' ∈ applyObs (.wait b) s → step? fixed s (.wait b) = some s') ∧
    (∀ ok s s', s' ∈ applyObs (.request ok) s → step? fixed s (.dispatch ok) = some s') ∧
    (∀ conn s s', s' ∈ applyObs (.lose conn) s → s' = loseConn conn s) ∧
    (∀ s s', s' ∈ applyObs .nop s → s' = s) ∧
    (∀ s, applyObs .impossible s = []) ∧
    (∀ s s', s' ∈ releaseAny s → ∃ sid, sid ∈ s.waiting ∧ step? fixed s (.waitRet sid) = some s') ∧
    (∀ p c c', c' ∈ silent p c →
      (∃ sid, sid ∈ c.s.inflight ∧ step? fixed c.s (.closeNotify sid) = some c'.s ∧
          c'.applied = c.applied) ∨
      (∃ pd, p = some pd ∧ c.applied = false ∧ c'.applied = true ∧ c'.s ∈ applyObs pd c.s)) :=
  ⟨fun _ _ _ _ _ _ _ h => applyObs_start h,
   fun _ _ h => by simpa [applyObs] using h,
   fun _ _ _ h => by simpa [applyObs] using h,
   fun _ _ _ h => by simpa [applyObs] using h,
   fun _ _ _ h => by simpa [applyObs] using h,
   fun _ _ h => by simpa [applyObs] using h,
   fun _ => rfl,
   fun _ _ h => releaseAny_faithful h,
   fun _ _ _ h => silent_faithful h⟩

/-- non-vacuity: an observed Start with the wrong result, or from a state where the model
    predicts a dial but none was observed, is rejected; the right one is accepted -/
example : applyObs (.start .ok (.err .register) true 1 1) init = [] ∧
    applyObs (.start .ok .ok false 1 1) init = [] ∧
    (applyObs (.start .ok .ok true 1 1) init).length = 1 := by decide

/-! ### Pre-connected stubs (outside the property's "fresh connection"; recorded) -/

/-- A stub created with `NRI_PLUGIN_SOCKET` (every pre-installed plugin) is single-shot: its
    first `Start` takes the inherited descriptor into use without dialling; once that is used
    up, every later `Start` on the not-started stub returns an error — "invalid socket", or,
    if the process has reused the descriptor number, a registration error after adopting and
    closing a socket that is not its own — never `ok`, never `blocked`, and the stub stays
    not started. A stub created with `WithConnection` uses the given connection once (no
    dial) and the dialer afterwards. -/
theorem C16_preconnected_single_shot {s : State} (hr : Reach s) (hs : s.started = false) :
    (s.src ≠ .dialer → s.preUsed = false → wouldDial s = false) ∧
    (s.src = .given → s.preUsed = true → wouldDial s = true) ∧
    (s.src = .envFd → s.preUsed = true → ∀ o r s', step? fixed s (.start o r) = some s' →
      (r = .err .preconn ∧ s' = s) ∨ (r = .err .register ∧ s'.started = false ∧ wouldDial s = false)) := by
  have hg := hr.good
  have hw := hg.notWedged
  refine ⟨?_, ?_, ?_⟩
  · intro h1 h2; simp [wouldDial, h1, h2]
  · intro h1 h2; simp [wouldDial, hs, hg.connNone hs, h1, h2]
  · intro h1 h2 o r s' h
    have hposs := (start_iff hw hg.connNone o r).mp (by simp [h])
    simp [startPossible, hs, h1, h2] at hposs
    rcases hposs with rfl | rfl
    · left; refine ⟨rfl, ?_⟩
      simp [step?, hw, startStep, hs, hg.connNone hs, h1, h2] at h
      exact h.symm
    · right; exact ⟨rfl, start_err_not_started hw hg.connNone h nofun, by simp [wouldDial, h1]⟩

example : ∃ s, Reach s ∧ s.started = false ∧ s.src = .envFd ∧ s.preUsed = true :=
  ⟨_, ⟨.envFd, [.start .ok .ok, .stop], by decide, rfl⟩, rfl, rfl, rfl⟩

/-- The one part of C16 that holds in EVERY variant — also of the code before the patch, and
    also after a `stall`: no session's `onClose` fires twice, a session whose callback ran has
    no further notification pending, and only sessions that exist are notified. (What the
    code before the patch does not give is "at least once": `unfixed_start_blocks`.) -/
theorem C16_onclose_atmost_once_any (v : Variant) (src : ConnSrc) (h : List Event) (s : State)
    (hr : run v (initWith src) h = some s) (sid : Nat) :
    s.fired.count sid ≤ 1 ∧ s.fired.count sid + s.inflight.count sid ≤ 1 ∧
    (sid ∈ s.fired ∨ sid ∈ s.inflight → 1 ≤ sid ∧ sid ≤ s.cur) := by
  have hb := (Book.init src).run hr
  refine ⟨List.nodup_iff_count.mp hb.firedNodup sid, ?_, ?_⟩
  · rw [hb.firedNodup.count, hb.inflNodup.count]
    by_cases hi : sid ∈ s.inflight
    · rw [if_neg (hb.disj sid hi), if_pos hi]
      exact Nat.le_refl 1
    · rw [if_neg hi]
      split <;> decide
  · rintro (h1 | h1)
    · exact hb.firedRng sid h1
    · exact hb.inflRng sid h1

example : ∃ s, run unfixed init [.start .ok .ok, .stop, .start .ok .ok, .closeNotify 1, .closeNotify 2] = some s ∧
    s.fired = [1, 2] := ⟨_, rfl, rfl⟩

/-- (a) The runtime end answers RegisterPlugin and drops the connection before configuring:
    `Start` can block forever, holding the mutex — no call of the stub is enabled any more
    (in particular the close notification never runs, so `onClose` never fires). -/
theorem unfixed_start_blocks :
    ∃ s, run unfixed init [.start .dropCfg .blocked] = some s ∧ s.wedged = true ∧ s.inflight = [1] ∧
      (∀ o r, step? unfixed s (.start o r) = none) ∧ step? unfixed s .stop = none ∧
      (∀ b, step? unfixed s (.wait b) = none) ∧ (∀ sid, step? unfixed s (.closeNotify sid) = none) ∧
      run fixed init [.start .dropCfg .blocked] = none :=
  ⟨_, rfl, rfl, rfl, fun _ _ => rfl, rfl, fun _ => rfl, fun _ => rfl, by decide⟩

/-- (b) Stop, immediate restart, then the first session's close notification arrives: it
    tears down the second session (not started, requests fail) although nobody stopped it
    and its connection is intact. The repaired machine keeps it. -/
theorem unfixed_stale_notify :
    (∃ s, run unfixed init [.start .ok .ok, .stop, .start .ok .ok, .closeNotify 1] = some s ∧
      s.started = false ∧ 2 ∈ s.estab ∧ step? unfixed s (.dispatch true) = none) ∧
    (∃ s, run fixed init [.start .ok .ok, .stop, .start .ok .ok, .closeNotify 1] = some s ∧
      s.started = true ∧ step? fixed s (.dispatch true) = some s) := by
  decide

/-- (c) After a failed start the dead connection stays recorded: the next `Start` dials
    nothing and cannot succeed, however healthy the runtime end is. -/
theorem unfixed_stale_conn :
    ∃ s, run unfixed init [.start .refuse (.err .register)] = some s ∧
      s.conn = some 1 ∧ 1 ∈ s.dead ∧
      step? unfixed s (.start .ok .ok) = none ∧
      (∃ s', step? unfixed s (.start .ok (.err .register)) = some s' ∧ s'.dials = 1 ∧ s'.started = false) ∧
      (∃ s', run fixed init [.start .refuse (.err .register), .start .ok .ok] = some s' ∧
        s'.started = true ∧ s'.conn = some 2) := by
  decide

end Nri.Props.C16
