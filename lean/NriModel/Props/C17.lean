import NriModel.Registration
import NriModel.Lemmas.Registration
/-!
Property C17 — only well-formed, timely registrations are activated, and the socket is private.

All statements are about `Nri.Registration` (model of pkg/adaptation/plugin.go `start`,
`RegisterPlugin`, `configure`; adaptation.go `acceptPluginConnections`, `startListener`;
pkg/api/plugin.go `CheckPluginIndex`) and quantify over every name and index string, every
32-bit mask, every behaviour of the connecting plugin (when, if ever, it registers, hangs up,
answers Configure and Synchronize), every pair of timeouts, every list of such plugins and
every umask.
-/
namespace Nri.Props.C17
open Nri Nri.Events Nri.Registration Nri.Lemmas.Registration

/-- The index check accepts exactly the strings made of two ASCII digits. -/
theorem C17_index_iff (idx : Str) : checkIndex idx = .ok () ↔ TwoDigits idx := checkIndex_iff idx

example : TwoDigits (str "07") := ⟨'0', '7', rfl, by decide, by decide⟩
example : checkIndex (str "7") = .error .length ∧ checkIndex (str "007") = .error .length ∧
          checkIndex (str "-1") = .error .notDigits ∧ checkIndex (str "é") = .error .notDigits ∧
          checkIndex (str "٣٤") = .error .length := ⟨rfl, rfl, rfl, rfl, rfl⟩

/-- An external plugin's registration is accepted exactly when the name is non-empty and the
    index is two digits; it is then known under exactly that index and name. -/
theorem C17_register_iff (pre : Str × Str) (name idx : Str) (r : Str × Str) :
    registerPlugin true pre name idx = .ok r ↔ name ≠ [] ∧ TwoDigits idx ∧ r = (idx, name) :=
  registerPlugin_ext_iff pre name idx r

/-- The mask answered to Configure is accepted exactly when it has no bit outside the
    thirteen defined events; an empty mask then stands for all of them. -/
theorem C17_mask_iff (m m' : Mask) :
    configureMask m = .ok m' ↔ m &&& ~~~valid = 0#32 ∧ m' = (if m = 0#32 then valid else m) :=
  configureMask_iff m m'

example : configureMask 0x2000#32 = .error (.invalidEvents 0x2000#32) ∧
          configureMask 0x80000001#32 = .error (.invalidEvents 0x80000000#32) ∧
          configureMask 0x1001#32 = .ok 0x1001#32 ∧ configureMask 0#32 = .ok 0x1fff#32 := ⟨rfl, rfl, rfl, rfl⟩

/-- Activation, characterised. A connecting plugin ends up in the plugin list iff it
    registers before the registration timeout (and before hanging up) with a non-empty name
    and a two-digit index, answers Configure within the request timeout, without error, with a
    mask of valid events only, and answers the initial Synchronize within the request timeout
    without error — and it is then listed under exactly the index and name it registered and
    the events it asked for. -/
theorem C17_active_iff (to : Timeouts) (b : Behaviour) (idx name : Str) (ev : Mask) :
    (handle to b).outcome = .activated idx name ev ↔
      Timely to b ∧ b.name ≠ [] ∧ TwoDigits b.idx ∧
      Answers b.cfgAt to.req ∧ b.cfgErr = false ∧ b.events &&& ~~~valid = 0#32 ∧
      Answers b.syncAt to.req ∧ b.syncErr = false ∧
      idx = b.idx ∧ name = b.name ∧ ev = (if b.events = 0#32 then valid else b.events) := by
  rcases handle_cases to b with ⟨hT, h⟩ | ⟨hT, r, _, _, ⟨hn, e, h⟩ | ⟨h1, h2, h⟩⟩
  · -- registration lost
    simp [h, hT, (regLost_facts to b).1]
  · -- registration refused
    rw [h]
    exact ⟨nofun, fun hx => absurd ⟨hx.2.1, hx.2.2.1⟩ hn⟩
  · -- registered: the rest is `configurePhase_spec`
    simp only [h, (configurePhase_spec to b b.idx b.name r).2.2.2, hT, h1, h2, true_and, ne_eq,
      not_false_eq_true]

example : (handle ⟨100, 100⟩ ⟨some 3, str "p", str "42", none, some 1, false, 0x11#32, some 2, false⟩).outcome =
            .activated (str "42") (str "p") 0x11#32 := by decide
example : (handle ⟨100, 100⟩ ⟨some 100, str "p", str "42", none, some 1, false, 0x11#32, some 2, false⟩).outcome =
            .regTimeout := by decide

/-- The events an active plugin is subscribed to are never empty and never outside the
    defined thirteen. -/
theorem C17_events_valid (to : Timeouts) (b : Behaviour) (idx name : Str) (ev : Mask)
    (h : (handle to b).outcome = .activated idx name ev) : ev ≠ 0#32 ∧ ev &&& ~~~valid = 0#32 := by
  obtain ⟨_, _, _, _, _, hv, _, _, _, _, hev⟩ := (C17_active_iff to b idx name ev).mp h
  subst hev
  by_cases hz : b.events = 0#32
  · simp only [hz, if_true]
    exact ⟨by decide, by decide⟩
  · simp only [hz, if_false]
    exact ⟨hz, hv⟩

/-- What a plugin is sent during the handshake. Configure goes only to plugins whose
    registration was well-formed and timely; Synchronize only to those that moreover answered
    Configure in time with a valid mask. -/
theorem C17_handshake_gated (to : Timeouts) (b : Behaviour) :
    ((handle to b).configured = true → Timely to b ∧ b.name ≠ [] ∧ TwoDigits b.idx) ∧
    ((handle to b).synced = true →
       Timely to b ∧ b.name ≠ [] ∧ TwoDigits b.idx ∧
       Answers b.cfgAt to.req ∧ b.cfgErr = false ∧ b.events &&& ~~~valid = 0#32) :=
  (handle_flags to b).2

/-- Isolation. After the accept loop has dealt with any list of connections, an event is
    relayed to connection `i` iff that connection was activated (in the sense of
    `C17_active_iff`) and asked for that event. A plugin that was not activated is not in the
    list and receives no event. -/
theorem C17_isolated (to : Timeouts) (bs : List Behaviour) (e : EventNo) (i : Nat) :
    i ∈ recipients (acceptAll to {} bs).1 e ↔
      ∃ b idx name ev, bs[i]? = some b ∧ (handle to b).outcome = .activated idx name ev ∧
        isSet ev e = true := by
  -- the plugin list is a `filterMap` over the connections paired with their numbers, and
  -- `(b, j) ∈ bs.zipIdx ↔ bs[j]? = some b` (`List.mk_mem_zipIdx_iff_getElem?`) turns membership
  -- in it into the indexing of the statement
  simp only [recipients, (acceptAll_spec to {} bs).2.1, List.nil_append, List.mem_map,
    List.mem_filter, List.mem_filterMap, Prod.exists, List.mk_mem_zipIdx_iff_getElem?, entry_eq_some]
  constructor
  · rintro ⟨a, ⟨⟨b, j, hb, rfl, ho⟩, hset⟩, rfl⟩
    exact ⟨b, _, _, _, hb, ho, hset⟩
  · rintro ⟨b, idx, name, ev, hb, ho, hset⟩
    exact ⟨⟨i, idx, name, ev⟩, ⟨⟨b, i, hb, rfl, ho⟩, hset⟩, rfl⟩

example : recipients (acceptAll ⟨10, 10⟩ {}
            [ ⟨some 0, str "bad", str "7", none, some 0, false, 1#32, some 0, false⟩,
              ⟨none, str "x", str "00", none, some 0, false, 1#32, some 0, false⟩,
              ⟨some 0, str "good", str "10", none, some 0, false, 0#32, some 0, false⟩ ]).1 4 = [2] := by decide

/-- No blocking. The loop spends a bounded number of ticks on any connection, whatever the
    plugin does or omits, and what happens to a connection depends on that plugin's own
    behaviour only — bad plugins ahead of it change nothing. In particular a good plugin behind
    any number of bad ones is activated. (The bound: the registration timeout, then one request
    timeout each for Configure and Synchronize.) -/
theorem C17_no_block (to : Timeouts) (s : State) (bs : List Behaviour) :
    (∀ b, (handle to b).elapsed ≤ to.reg + 2 * to.req) ∧
    (acceptAll to s bs).2 = bs.map (handle to) ∧
    (acceptAll to s bs).1.accepted = s.accepted + bs.length ∧
    (acceptAll to s bs).1.clock ≤ s.clock + bs.length * (to.reg + 2 * to.req) :=
  have hspec := acceptAll_spec to s bs
  have hb := fun b => (handle_flags to b).1
  ⟨hb, hspec.1, hspec.2.2.1, hspec.2.2.2 _ hb⟩

/-- Consequence spelled out: a well-behaved plugin behind arbitrary others is in the list. -/
theorem C17_good_after_bad (to : Timeouts) (bad : List Behaviour) (g : Behaviour)
    (hg : (handle to g).outcome = .activated g.idx g.name (if g.events = 0#32 then valid else g.events))
    (e : EventNo) (he : isSet (if g.events = 0#32 then valid else g.events) e = true) :
    bad.length ∈ recipients (acceptAll to {} (bad ++ [g])).1 e := by
  apply (C17_isolated to (bad ++ [g]) e bad.length).mpr
  exact ⟨g, _, _, _, by simp, hg, he⟩

/-- A directory NRI creates for its socket carries no permission bit for group or others,
    under every umask and inside every parent directory. -/
theorem C17_dir_private (umask parent : Mode) : mkdirMode umask parent &&& 0o077#12 = 0#12 := by
  unfold mkdirMode
  -- the test mask distributes over both parts, and 0700 and 02000 are disjoint from 0077
  rw [BitVec.and_comm 0o700#12, BitVec.and_or_distrib_right, BitVec.and_assoc, BitVec.and_assoc]
  simp

example : mkdirMode 0o022#12 0o755#12 = 0o700#12 ∧ mkdirMode 0o277#12 0o755#12 = 0o500#12 ∧
          mkdirMode 0o777#12 0o777#12 = 0#12 ∧ mkdirMode 0o022#12 0o2775#12 = 0o2700#12 := by decide

/-- The same for everything `startListener` creates: every path component that was missing
    is private afterwards; components that existed are left as they were. -/
theorem C17_created_private (umask parent : Mode) (chain : List (Option Mode)) (modes : List Mode)
    (h : startListener false umask parent chain = some modes) :
    modes.length = chain.length ∧
    ∀ i : Nat, (chain[i]? = some none → ∃ m, modes[i]? = some m ∧ m &&& 0o077#12 = 0#12) ∧
         (∀ m, chain[i]? = some (some m) → modes[i]? = some m) := by
  cases h
  induction chain generalizing parent with
  | nil => exact ⟨rfl, fun i => ⟨nofun, nofun⟩⟩
  | cons c rest ih =>
    cases c with
    | none =>
      have := ih (mkdirMode umask parent)
      refine ⟨congrArg (· + 1) this.1, fun i => ?_⟩
      cases i with
      | zero => exact ⟨fun _ => ⟨_, rfl, C17_dir_private ..⟩, nofun⟩
      | succ i => exact this.2 i
    | some m0 =>
      have := ih m0
      refine ⟨congrArg (· + 1) this.1, fun i => ?_⟩
      cases i with
      | zero => exact ⟨nofun, fun m hm => by cases hm; rfl⟩
      | succ i => exact this.2 i

/-- With external connections disabled nothing is created and no socket is served. -/
theorem C17_no_listen (umask parent : Mode) (chain : List (Option Mode)) :
    startListener true umask parent chain = none := rfl

end Nri.Props.C17
