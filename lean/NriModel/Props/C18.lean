import NriModel.Lemmas.Launch
/-!
Property C18 — *pre-installed plugins are launched, configured and reaped as documented*.

Theorems about `Nri.Launch` (model of `discoverPlugins`, `getPluginConfig`,
`newLaunchedPlugin`, `start`, `startPlugins`, `sortPlugins`, `stop`, with the two repairs
docs/fixes/C18-1.patch and C18-2.patch) for EVERY directory content, every set of drop-in
files and every behaviour of the launched processes. What only the operating system decides
(that `exec` passes exactly descriptors 0–3, that `Kill`/`Wait` remove the process) is
measured by the probe campaign, not proved here — see docs/C18.md.
-/
namespace Nri.Props.C18
open Nri Nri.Launch

/-- the scan's notion of a plugin file is the documented one: not a directory, some execute
    bit, and a name made of a two-digit index, a dash and a name -/
theorem C18_plugin_shape (e : Entry) :
    isPlugin e = true ↔
      e.kind ≠ .dir ∧ hasExecBit e.mode = true ∧
      ∃ idx base, checkIndex idx = true ∧ e.name = idx ++ ('-' :: base) := by
  simp only [isPlugin, Option.isSome_iff_exists, Prod.exists, parsePluginName_iff, candidate, Bool.and_eq_true, decide_eq_true_eq,
    and_assoc]

/-- **Launched.** A successful discovery finds exactly the plugin files, in the order of the
    directory listing (by file name), each once if file names are distinct, each with the
    exec fact of its own file; and start-up attempts every one of them exactly once, in that
    order, whatever happened to the ones before. -/
theorem C18_launched (d : Dropins) (entries : List Entry) (fs : List Found)
    (h : discover d entries = .ok fs) :
    fs.map Found.fileName = ((sortByName entries).filter isPlugin).map (·.name) ∧
    fs.map (·.exec) = ((sortByName entries).filter isPlugin).map (·.exec) ∧
    (∀ e ∈ entries, isPlugin e = true → e.name ∈ fs.map Found.fileName) ∧
    ((entries.map (·.name)).Nodup → (fs.map Found.fileName).Nodup) ∧
    ((startUpOf fs startOne).started.map (·.found) = fs) ∧
    (∀ s ∈ (startUpOf fs startOne).started, s.process = true ↔ ∃ b, s.found.exec = .runs b) := by
  obtain ⟨h1, h2, _⟩ := discoverLoop_ok h
  refine ⟨h1, h2, ?_, ?_, map_startOne_found fs, ?_⟩
  · intro e he hp
    rw [h1]
    exact List.mem_map_of_mem (List.mem_filter.mpr ⟨(sortByName_perm entries).mem_iff.mpr he, hp⟩)
  · intro hnd
    rw [h1]
    exact (((sortByName_perm entries).map _).nodup_iff.mpr hnd).sublist (List.filter_sublist.map _)
  · simp only [startUpOf, List.forall_mem_map, startOne_found]
    exact fun f _ => startOne_process f

/-- **Start never aborts on names.** With readable drop-ins discovery succeeds for every
    directory content — a file that is not named `NN-name` is simply not a plugin. -/
theorem C18_discovery_total (d : Dropins) (entries : List Entry)
    (hd : ∀ k, AList.lookup d k ≠ some .dir) : ∃ fs, discover d entries = .ok fs :=
  discoverLoop_total hd _

/-- **Non-plugins are invisible.** Adding a directory, a file without any execute bit or a
    file whose name is not `NN-name` to the plugin directory changes nothing. -/
theorem C18_non_plugin_ignored (d : Dropins) (e : Entry) (entries : List Entry)
    (h : isPlugin e = false) : discover d (e :: entries) = discover d entries := by
  unfold discover
  rw [discoverLoop_filter d (sortByName (e :: entries)), discoverLoop_filter d (sortByName entries)]
  simp only [sortByName]
  rw [insertByName_filter_of_not _ h]

/-- **Drop-in choice.** `NN-name.conf` if it exists, else `name.conf` if it exists, else the
    empty configuration; and every discovered plugin carries exactly that. -/
theorem C18_config (d : Dropins) (idx base : Str) :
    (∀ c, AList.lookup d (idx ++ ('-' :: base) ++ confSuffix) = some (.file c) →
        configFor d idx base = .ok c) ∧
    (AList.lookup d (idx ++ ('-' :: base) ++ confSuffix) = none →
      ∀ c, AList.lookup d (base ++ confSuffix) = some (.file c) → configFor d idx base = .ok c) ∧
    (AList.lookup d (idx ++ ('-' :: base) ++ confSuffix) = none →
      AList.lookup d (base ++ confSuffix) = none → configFor d idx base = .ok []) ∧
    (∀ entries fs, discover d entries = .ok fs → ∀ f ∈ fs, configFor d f.idx f.base = .ok f.cfg) := by
  refine ⟨?_, ?_, ?_, ?_⟩
  · intro c h; simp only [configFor, firstConfig, h]
  · intro h c h2; simp only [configFor, firstConfig, h, h2]
  · intro h h2; simp only [configFor, firstConfig, h, h2]
  · intro entries fs h f hf
    exact ((discoverLoop_ok h).2.2 f hf).2

/-- **Environment.** The child is given exactly three variables — its name, its index, and
    `3` as the number of the pre-connected socket — and exactly one file beyond
    stdin/stdout/stderr, so descriptors 0…3; name and index are the two parts of the file name. -/
theorem C18_env (idx base : Str) :
    childEnv idx base = [(envName, base), (envIdx, idx), (envSocket, "3".toList)] ∧
    childFds = [0, 1, 2, 3] ∧
    (checkIndex idx = true → parsePluginName (idx ++ ('-' :: base)) = some (idx, base)) := by
  exact ⟨rfl, by decide, fun h => parsePluginName_iff.mpr ⟨h, rfl⟩⟩

/-- **Index order is numeric order.** `sortPlugins` compares the index *strings*; for two-digit
    indices that is the numeric order, leading zeros included: `"07" < "08" < "09" < "10"`
    (an index parsed as a number with base auto-detection would read "08"/"09" as invalid
    octal — seeded/C18-s4). Same fact as `idx_order` of C06, restated on this model. -/
theorem C18_index_order (i1 i2 : Str) (h1 : checkIndex i1 = true) (h2 : checkIndex i2 = true) :
    strLe i1 i2 = true ↔ idxVal i1 ≤ idxVal i2 :=
  idx_strLe_iff h1 h2

example : strLe "07".toList "08".toList = true ∧ strLe "09".toList "10".toList = true ∧
    strLe "08".toList "01".toList = false ∧ idxVal "09".toList = 9 := by decide +kernel

/-- **Order.** Plugins are launched in index order, and the active plugins in launch order
    are sorted by index — so the order `sortPlugins` produces (any index-sorted permutation)
    invokes them in index order. -/
theorem C18_order (d : Dropins) (entries : List Entry) (fs : List Found)
    (h : discover d entries = .ok fs) :
    fs.Pairwise (fun a b => idxVal a.idx ≤ idxVal b.idx) ∧
    sortedByIdx (startUpOf fs startOne).active = true := by
  obtain ⟨h1, _, h3⟩ := discoverLoop_ok h
  have hnames : (fs.map Found.fileName).Pairwise (strLe · · = true) :=
    h1 ▸ List.pairwise_map.mpr ((sortByName_pairwise entries).sublist List.filter_sublist)
  have hfs := (List.pairwise_map.mp hnames).imp_of_mem fun ha hb hle =>
    idx_le_of_name_le (h3 _ ha).1 (h3 _ hb).1 hle
  exact ⟨hfs, pairwise_sortedByIdx (hfs.sublist (startUpOf_active_sublist fs))⟩

/-- a plugin that comes up (registers, accepts its configuration, synchronises) -/
def good (f : Found) : Bool :=
  f.exec = .runs .ok || f.exec = .runs .diesLater ||
  f.exec = .runs .closesWhenIdle || f.exec = .runs .exitsWhenIdle

/-- **Skip.** Whatever the other plugins do: (1) the active plugins are exactly the
    discovered ones that come up, in launch order — a plugin that cannot be executed, exits
    at once, never registers, refuses its configuration or fails to synchronise is absent and
    nothing else changes; (2) a plugin that comes up sees its start, its configuration, the
    synchronisation and every request, in this order; one that dies after the first request
    sees no later request; (3) every process that was created has been stopped (killed and
    waited for) by the time the runtime has stopped. -/
theorem C18_skip (fs : List Found) (reqs : Nat) :
    (startUpOf fs startOne).active = fs.filter good ∧
    (∀ s ∈ (startUpOf fs startOne).started, s.found.exec = .runs .ok →
        eventsOf s reqs = [Ev.start, Ev.configure, Ev.synchronize] ++ (List.range reqs).map fun i => Ev.create (i + 1)) ∧
    (∀ s ∈ (startUpOf fs startOne).started, s.found.exec = .runs .diesLater → 0 < reqs →
        eventsOf s reqs = [Ev.start, Ev.configure, Ev.synchronize, Ev.create 1]) ∧
    (∀ s ∈ (startUpOf fs startOne).started, ¬ good s.found = true →
        ∀ n, Ev.create n ∉ eventsOf s reqs) ∧
    (∀ s ∈ (startUpOf fs startOne).started, s.process = true → stoppedEventually s = true) := by
  have hgood : ∀ f, syncOk (startOne f) = good f := fun f =>
    Bool.eq_iff_iff.mpr ((syncOk_startOne f).trans (by simp [good, or_assoc]))
  simp only [startUpOf, List.forall_mem_map, startOne_found]
  refine ⟨?_, ?_, ?_, ?_, ?_⟩
  · rw [List.filter_map, List.map_map]
    simp [Function.comp_def, hgood]
  · intro f _ hex
    simp [eventsOf, startOne, hex, syncOk]
  · intro f _ hex hreq
    simp [eventsOf, startOne, hex, syncOk, Nat.ne_of_gt hreq]
  · intro f _ hbad n hn
    exact hbad (hgood f ▸ syncOk_of_create_mem hn)
  · exact fun f _ => startOne_stoppedEventually f

/-- **Stop kills all.** Take the plugins active after start-up and let ANY sequence of relayed
    requests and idle periods follow, during which plugins may die after a request, close their
    end of the connection while staying alive, or exit while the runtime is idle. Then after
    `Stop` `p.stop()` (kill + wait) has been called on every one of them — whatever its
    connection state at that moment and whether or not a request was relayed since it closed
    (`removeClosedPlugins` only runs with a request; `stopPlugins` does not look at the flag). -/
theorem C18_stop_kills_all (active : List Found) (plan : List Step) :
    (∀ f ∈ active, f ∈ (stopAll (runPlan (initRun active) plan)).stopped) ∧
    (stopAll (runPlan (initRun active) plan)).plugins = [] := by
  refine ⟨fun f hf => ?_, rfl⟩
  have h0 : Held (initRun active) f := .inl (List.mem_map.mpr ⟨(f, false), List.mem_map_of_mem hf, rfl⟩)
  have hN : Held (runPlan (initRun active) plan) f :=
    List.foldlRecOn (motive := (Held · f)) plan step h0 fun _ hb s _ => held_step hb s
  exact List.mem_append.mpr hN.symm

/-- … and for any list the runtime may hold at `Stop`, flagged closed or not -/
theorem C18_stop_ignores_closed_flag (st : RunState) :
    ∀ p ∈ st.plugins, p.1 ∈ (stopAll st).stopped := by
  intro p hp
  simp only [stopAll]
  exact List.mem_append_right _ (List.mem_map_of_mem hp)

/-- the seeded breakage (seeded/C18-s1: `stopPlugins` skips plugins flagged closed): a plugin
    that closes while the runtime is idle is never stopped when `Stop` follows directly -/
theorem skipping_closed_leaks :
    let f : Found := ⟨"10".toList, "closer".toList, [], .runs .closesWhenIdle⟩
    f ∉ (stopAllSkippingClosed (runPlan (initRun [f]) [.idle])).stopped ∧
    f ∈ (stopAll (runPlan (initRun [f]) [.idle])).stopped ∧
    f ∈ (stopAllSkippingClosed (runPlan (initRun [f]) [.idle, .request])).stopped := by
  decide +kernel

def exEntry (name : String) (b : Behaviour) : Entry :=
  { name := name.toList, kind := .file, mode := 0o755, exec := .runs b }

/-- Unrepaired `discoverPlugins`: an executable `README` next to `10-x` makes the whole
    discovery fail — `10-x` is never launched. The repaired scan launches it. -/
theorem unfixed_misnamed_aborts :
    failure (discoverUnfixed [] [exEntry "README" .ok, exEntry "10-x" .ok]) = some .invalidName ∧
    (discover [] [exEntry "README" .ok, exEntry "10-x" .ok]).toOption.map (·.map Found.fileName)
      = some ["10-x".toList] := by
  decide +kernel

/-- Unrepaired `start`: a plugin that exits before registering is never waited for. -/
theorem unfixed_exit_not_reaped :
    stoppedEventually (startOneUnfixed ⟨"10".toList, "x".toList, [], .runs .exitsAtOnce⟩) = false ∧
    stoppedEventually (startOne ⟨"10".toList, "x".toList, [], .runs .exitsAtOnce⟩) = true := by
  decide +kernel

example : ∃ fs, discover [("10-a.conf".toList, .file "A".toList), ("b.conf".toList, .file "B".toList)]
    [exEntry "20-b" .exitsAtOnce, exEntry "10-a" .ok,
     { name := "sub".toList, kind := .dir, mode := 0o755, exec := .cannot },
     { name := "30-c".toList, kind := .file, mode := 0o644, exec := .cannot }] = .ok fs ∧
    fs.map Found.fileName = ["10-a".toList, "20-b".toList] ∧ fs.map (·.cfg) = ["A".toList, "B".toList] :=
  exists_ok_of_any (by decide +kernel)

end Nri.Props.C18
