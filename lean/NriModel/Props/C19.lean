import NriModel.Lemmas.LocksMutex
/-!
Property C19 — unsolicited updates reach the runtime once, unchanged, and never concurrently.

Model: `Nri.Mutex` (`NriModel/Locks.lean`): (i) the wrapper chain of one unsolicited update —
`stub.UpdateContainers` (stub.go) → ttRPC → `plugin.UpdateContainers` (plugin.go) →
`Adaptation.updateContainers` (adaptation.go) → the runtime's `UpdateFn` — as total functions
over an arbitrary update type `α` and error type `ε`; (ii) the adaptation mutex as a labelled
transition system in which update calls of any number of plugins interleave with runtime
requests. The history theorems quantify over ALL histories `run init h = some s`; the ghost
logs `fnRuns u` / `rets u` record every `UpdateFn` invocation made for, and every value
returned to, call `u`.
-/
namespace Nri.Props.C19
open Nri.Mutex

variable {α ε : Type}

/-- **Pass-through (function level).** Through a started stub connected to an adaptation whose
    callback is `fn`, the callback is applied to exactly the list the plugin sent, and the plugin
    receives the callback's failed list when the callback succeeded … -/
theorem C19_passthrough_ok (fn : List α → FnResult α ε) (update : List α)
    (h : (fn update).err = none) :
    stubUpdate (some (connected fn)) update = ((fn update).failed, none) := by
  simp [stubUpdate, connected, transport, serviceUpdate, adaptationUpdate, h]

/-- … and the callback's error, and no failed list, when it failed. -/
theorem C19_passthrough_err (fn : List α → FnResult α ε) (update : List α) (e : ε)
    (h : (fn update).err = some e) :
    stubUpdate (some (connected fn)) update = ([], some (.rpc e)) := by
  simp [stubUpdate, connected, transport, serviceUpdate, adaptationUpdate, h]

/-- Both cases at once: the wrapper chain computes `expected`, the value the transition system
    demands of every `ret` event. -/
theorem C19_passthrough_fn (fn : List α → FnResult α ε) (update : List α) :
    stubUpdate (some (connected fn)) update = expected (fn update) := by
  cases h : (fn update).err with
  | none => rw [C19_passthrough_ok fn update h]; simp [expected, h]
  | some e => rw [C19_passthrough_err fn update e h]; simp [expected, h]

/-- **No service.** A stub that was never started answers at once with `ErrNoService` … -/
theorem C19_noservice (update : List α) :
    stubUpdate (none : Option (List α → Option (List α) × Option ε)) update =
      ([], some .noService) := rfl

/-- … also while its `Start()` is in progress but the runtime client does not exist yet
    (dialing, multiplexing): the answer depends on nothing else — in particular not on the stub
    lock `Start()` holds, which `UpdateContainers` does not take. (In the transition system this
    is the same `callUnstarted` step, enabled in every state by `C19_noservice_never_blocks`.) -/
theorem C19_noservice_starting (ph : StubPhase) (hph : ph = .fresh ∨ ph = .connecting)
    (client : List α → Option (List α) × Option ε) (update : List α) :
    stubUpdate (clientOf ph client) update = ([], some .noService) := by
  rcases hph with rfl | rfl <;> rfl

/-- Once the client exists — from the registering phase on, which is when the plugin's
    `Configure` handler runs — an update is passed through exactly like on a started stub. -/
theorem C19_passthrough_registering (ph : StubPhase) (hph : ph = .registering ∨ ph = .started)
    (fn : List α → FnResult α ε) (update : List α) :
    stubUpdate (clientOf ph (connected fn)) update = expected (fn update) := by
  rcases hph with rfl | rfl <;> exact C19_passthrough_fn fn update

variable [DecidableEq α] [DecidableEq ε]

/-- … in every state (whoever holds the adaptation mutex: it does not block), without touching
    the runtime; and no other answer is accepted. -/
theorem C19_noservice_never_blocks (s : State α ε) (p : Pid) (update : List α) :
    step? s (.callUnstarted p update ([], some .noService)) = some s ∧
    ∀ out, out ≠ ([], some .noService) → step? s (.callUnstarted p update out) = none := by
  constructor
  · simp [step?, stubUpdate]
  · intro out ho; simp [step?, stubUpdate, ho]

/-- **Pass-through (history level).** In every accepted history, whatever `UpdateFn` was invoked
    with on behalf of call `u` is exactly the list plugin `p` passed to its stub … -/
theorem C19_passthrough_arg {h : List (Ev α ε)} {s : State α ε} (hr : run init h = some s)
    (u : Uid) (arg : List α) (res : FnResult α ε) (hm : (arg, res) ∈ s.fnRuns u) :
    ∃ p ph, s.call u = some ⟨p, arg, ph⟩ := by
  rcases (callOk_logs ((goodM_run hr).calls u)).1 with h0 | ⟨p, L, ph, r, hc, hruns⟩
  · rw [h0] at hm; cases hm
  · rw [hruns, List.mem_singleton] at hm; cases hm; exact ⟨p, ph, hc⟩

/-- … and whatever was returned to the plugin for call `u` is the result of that one invocation:
    its failed list unchanged if it succeeded, its error (and nothing else) if it failed. -/
theorem C19_passthrough_result {h : List (Ev α ε)} {s : State α ε} (hr : run init h = some s)
    (u : Uid) (out : List α × Option (StubErr ε)) (hm : out ∈ s.rets u) :
    ∃ p update r, s.call u = some ⟨p, update, .returned r⟩ ∧ s.fnRuns u = [(update, r)] ∧
      (r.err = none → out = (r.failed, none)) ∧ (∀ e, r.err = some e → out = ([], some (.rpc e))) := by
  rcases (callOk_logs ((goodM_run hr).calls u)).2 with h0 | ⟨p, L, r, hc, hruns, hrets⟩
  · rw [h0] at hm; cases hm
  · rw [hrets, List.mem_singleton] at hm
    refine ⟨p, L, r, hc, hruns, fun he => ?_, fun e he => ?_⟩ <;> simp [hm, expected, he]

/-- **Once.** `UpdateFn` runs at most once per call in every accepted history, exactly once for
    a call that has returned, and a call returns at most once. -/
theorem C19_once {h : List (Ev α ε)} {s : State α ε} (hr : run init h = some s) (u : Uid) :
    (s.fnRuns u).length ≤ 1 ∧ (s.rets u).length ≤ 1 ∧
    (s.rets u ≠ [] → (s.fnRuns u).length = 1) := by
  obtain ⟨h1, h2⟩ := callOk_logs ((goodM_run hr).calls u)
  refine ⟨?_, ?_, ?_⟩
  · rcases h1 with h | ⟨_, _, _, _, -, h⟩ <;> simp [h]
  · rcases h2 with h | ⟨_, _, _, -, -, h⟩ <;> simp [h]
  · rcases h2 with h | ⟨_, _, _, -, h, -⟩ <;> simp [h]

/-- a call that was never made leaves no trace at the runtime (no spurious invocations) -/
theorem C19_no_spurious {h : List (Ev α ε)} {s : State α ε} (hr : run init h = some s) (u : Uid)
    (hn : s.call u = none) : s.fnRuns u = [] ∧ s.rets u = [] := by
  have g := (goodM_run hr).calls u
  unfold callOk at g
  rw [hn] at g
  exact g

/-- **The result does not depend on how long the call waited.** The stub's wait for the reply
    is not bounded by any time-out (`context.Background()`), and the model has no step by which a
    pending call could end other than `ret` with the callback's own result — or `gone`, the
    caller's going away, after which there is no `ret` (`C19_gone_no_result`): whatever happens
    between the plugin's call and its return — `mid` is ANY history, however long: other
    plugins' updates queued ahead, long runtime requests holding the mutex — the callback ran
    exactly once for it, with exactly the list sent, and the value returned is that result. -/
theorem C19_result_independent_of_wait {pre mid : List (Ev α ε)} {u : Uid} {p : Pid}
    {update : List α} {out : List α × Option (StubErr ε)} {s : State α ε}
    (hr : run init (pre ++ [.call u p update] ++ mid ++ [.ret u out]) = some s) :
    ∃ r, s.fnRuns u = [(update, r)] ∧ s.rets u = [out] ∧ out = expected r := by
  obtain ⟨s₂, hr₂, hret⟩ := (Run.append run_eq).1 hr
  obtain ⟨s₁, hr₁, hmid⟩ := (Run.append run_eq).1 hr₂
  obtain ⟨s₀, -, hcall⟩ := (Run.append run_eq).1 hr₁
  -- the call is registered with the list sent, and keeps it while it waits
  cases step_of ((Run.singleton run_eq).1 hcall)
  obtain ⟨ph₂, hc₂⟩ := call_kept_run hmid (upd_same ..)
  cases step_of ((Run.singleton run_eq).1 hret) with | @ret _ _ _ r _ hc ho
  have g₂ := (goodM_run hr₂).calls u
  rw [hc] at g₂ hc₂
  cases hc₂
  exact ⟨r, by simp [g₂.1], by simp [g₂.2], ho.1⟩

/-- **Exclusive (state form).** In every reachable state at most one of {a runtime request being
    processed, an `UpdateFn` invocation} is inside its section. `inside` is maintained by the
    begin/end events independently of the mutex word. -/
theorem C19_exclusive {h : List (Ev α ε)} {s : State α ε} (hr : run init h = some s) :
    s.inside.length ≤ 1 := by
  rw [(goodM_run hr).insideMu]
  cases s.mu <;> simp

/-- `UpdateFn` runs only while its own call is the one inside, a handler only while its own
    request is. -/
theorem C19_exclusive_fn {h : List (Ev α ε)} {s s' : State α ε} (hr : run init h = some s)
    (u : Uid) (arg : List α) (res : FnResult α ε) (he : step? s (.fn u arg res) = some s') :
    s.inside = [.upd u] := by
  cases step_of he with | fn _ hg
  rw [(goodM_run hr).insideMu, hg.1]
  rfl

theorem C19_exclusive_handler {h : List (Ev α ε)} {s s' : State α ε} (hr : run init h = some s)
    (r : Rid) (p : Pid) (he : step? s (.handler r p) = some s') :
    s.inside = [.req r] := by
  cases step_of he with | handler hmu
  rw [(goodM_run hr).insideMu, hmu]
  rfl

/-- **Exclusive (interval form).** Split an accepted history at the moment call `u` acquired the
    mutex: until `u` releases it, the history contains no event of any request's processing
    and no `enter`/`fn`/`leave` of another update. -/
theorem C19_exclusive_interval {pre m : List (Ev α ε)} {u : Uid} {s : State α ε}
    (hr : run init (pre ++ [.enter u] ++ m) = some s) (hnl : ∀ e ∈ m, releases (.upd u) e = false) :
    ∀ e ∈ m, foreignTo (.upd u) e = false := by
  refine exclusive_after (fun h => ?_) hr hnl
  cases step_of h
  rfl

/-- the same for a runtime request -/
theorem C19_exclusive_interval_req {pre m : List (Ev α ε)} {r : Rid} {s : State α ε}
    (hr : run init (pre ++ [.reqBegin r] ++ m) = some s) (hnl : ∀ e ∈ m, releases (.req r) e = false) :
    ∀ e ∈ m, foreignTo (.req r) e = false := by
  refine exclusive_after (fun h => ?_) hr hnl
  cases step_of h
  rfl

/-- **The caller's going away moves nothing on the runtime side.** When the connection of the
    plugin that sent call `u` is lost, or the caller stops waiting, the adaptation mutex stays
    where it is, whoever is inside stays inside, the call keeps its phase (a callback in progress
    stays in progress), and no invocation and no result is added or removed. In particular the
    mutex is NOT released on behalf of a callback that has not finished. -/
theorem C19_gone_keeps_lock {s s' : State α ε} {u : Uid} {e : StubErr ε}
    (he : step? s (.gone u e) = some s') :
    s'.mu = s.mu ∧ s'.inside = s.inside ∧ s'.call = s.call ∧ s'.fnRuns = s.fnRuns ∧
      s'.rets = s.rets := by
  cases step_of he
  exact ⟨rfl, rfl, rfl, rfl, rfl⟩

/-- **Delivered at most once, unchanged, whatever becomes of the caller; a call ends once.** In
    every accepted history a call ends at most once — with the callback's result or with the
    transport's error because its caller went away, never both; a call whose caller went away
    gets no result, and its update still reaches the callback at most once, and then with exactly
    the list the plugin sent. -/
theorem C19_gone_no_result {h : List (Ev α ε)} {s : State α ε} (hr : run init h = some s)
    (u : Uid) :
    (s.lost u).length + (s.rets u).length ≤ 1 ∧
    (s.lost u ≠ [] → s.rets u = [] ∧ (s.fnRuns u).length ≤ 1 ∧
      ∀ arg res, (arg, res) ∈ s.fnRuns u → ∃ p ph, s.call u = some ⟨p, arg, ph⟩) := by
  have g := goodM_run hr
  refine ⟨g.ends u, ?_⟩
  intro hl
  refine ⟨?_, (C19_once hr u).1, fun arg res hm => C19_passthrough_arg hr u arg res hm⟩
  have := g.ends u
  have := List.length_pos_iff.2 hl
  exact List.eq_nil_of_length_eq_zero (by omega)

/-- **Exclusive across the caller's going away (interval form).** After call `u` acquired the
    mutex, until `u` itself releases it, the history contains no event of anybody else's section —
    also when `u`'s caller goes away in the middle (`gone u` is not a release). -/
theorem C19_exclusive_gone {pre m₁ m₂ : List (Ev α ε)} {u : Uid} {e : StubErr ε} {s : State α ε}
    (hr : run init (pre ++ [.enter u] ++ (m₁ ++ [.gone u e] ++ m₂)) = some s)
    (hnl : ∀ x ∈ m₁ ++ m₂, releases (.upd u) x = false) :
    ∀ x ∈ m₁ ++ m₂, foreignTo (.upd u) x = false := by
  have key := C19_exclusive_interval hr
  simp only [List.forall_mem_append, List.mem_singleton, forall_eq] at key hnl ⊢
  obtain ⟨⟨h₁, -⟩, h₂⟩ := key ⟨⟨hnl.1, rfl⟩, hnl.2⟩
  exact ⟨h₁, h₂⟩

/-- two plugins' updates and a request interleave (as far as the mutex allows); call 0 fails
    with error 7, call 1 succeeds with failed list `[20]` -/
def demo : List (Ev Nat Nat) :=
  [.call 0 1 [10, 11], .call 1 2 [20, 21], .reqBegin 5, .handler 5 1, .handler 5 2, .reqEnd 5,
   .enter 1, .fn 1 [20, 21] ⟨[20], none⟩, .leave 1,
   .enter 0, .ret 1 ([20], none), .fn 0 [10, 11] ⟨[10], some 7⟩, .leave 0,
   .ret 0 ([], some (.rpc 7)), .callUnstarted 3 [1] ([], some .noService)]

example : ∃ s, run init demo = some s ∧ s.rets 0 = [([], some (.rpc 7))] ∧
    s.rets 1 = [([20], none)] ∧ s.fnRuns 0 = [([10, 11], ⟨[10], some 7⟩)] ∧ s.inside = [] :=
  ⟨_, rfl, by decide⟩

/-- the model refuses: a second owner while the mutex is held; an altered argument; an altered
    result; a second invocation; a blocked or wrong answer from an unstarted stub -/
example : run init ([.call 0 1 [10], .reqBegin 5, .enter 0] : List (Ev Nat Nat)) = none := by decide
example : run init ([.call 0 1 [10], .enter 0, .reqBegin 5] : List (Ev Nat Nat)) = none := by decide
example : run init ([.call 0 1 [10], .enter 0, .fn 0 [11] ⟨[], none⟩] : List (Ev Nat Nat)) = none := by
  decide
example : run init ([.call 0 1 [10], .enter 0, .fn 0 [10] ⟨[10], none⟩, .leave 0,
    .ret 0 ([], none)] : List (Ev Nat Nat)) = none := by decide
example : run init ([.call 0 1 [10], .enter 0, .fn 0 [10] ⟨[], none⟩, .fn 0 [10] ⟨[], none⟩] :
    List (Ev Nat Nat)) = none := by decide
example : run init ([.callUnstarted 3 [1] ([], none)] : List (Ev Nat Nat)) = none := by decide

/-- plugin 1's connection is lost while the callback runs for its call 0: the call ends with the
    transport's error, the callback finishes under the mutex, and only then the request and
    plugin 2's update get in -/
def demoGone : List (Ev Nat Nat) :=
  [.call 0 1 [10, 11], .enter 0, .call 1 2 [20], .gone 0 (.rpc 99), .fn 0 [10, 11] ⟨[10], none⟩,
   .leave 0, .reqBegin 5, .handler 5 2, .reqEnd 5, .enter 1, .fn 1 [20] ⟨[], none⟩, .leave 1,
   .ret 1 ([], none)]

example : ∃ s, run init demoGone = some s ∧ s.lost 0 = [.rpc 99] ∧ s.rets 0 = [] ∧
    s.fnRuns 0 = [([10, 11], ⟨[10], none⟩)] ∧ s.rets 1 = [([], none)] ∧ s.inside = [] :=
  ⟨_, rfl, by decide⟩

/-- the model refuses: a request, or another plugin's update, getting in after the caller went
    away but before the callback finished (the lock released early); a result delivered to a
    caller that is gone; a caller going away twice, or after its call returned -/
example : run init ([.call 0 1 [10], .enter 0, .gone 0 (.rpc 99), .reqBegin 5] :
    List (Ev Nat Nat)) = none := by decide
example : run init ([.call 0 1 [10], .call 1 2 [20], .enter 0, .gone 0 (.rpc 99), .enter 1] :
    List (Ev Nat Nat)) = none := by decide
example : run init ([.call 0 1 [10], .enter 0, .gone 0 (.rpc 99), .fn 0 [10] ⟨[], none⟩, .leave 0,
    .ret 0 ([], none)] : List (Ev Nat Nat)) = none := by decide
example : run init ([.call 0 1 [10], .gone 0 (.rpc 99), .gone 0 (.rpc 99)] :
    List (Ev Nat Nat)) = none := by decide
example : run init ([.call 0 1 [10], .enter 0, .fn 0 [10] ⟨[], none⟩, .leave 0, .ret 0 ([], none),
    .gone 0 (.rpc 99)] : List (Ev Nat Nat)) = none := by decide

end Nri.Props.C19
