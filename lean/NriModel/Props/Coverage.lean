import NriModel.Extracted.ApiSchema
import NriModel.Result
/-!
A REGENERATED tie for C01 / C02 / C05: the ownership ledger of the collector model (`Result.Item`)
names an item for every field of the protocol messages through which a plugin can change a
container.

`NriModel/Extracted/ApiSchema.lean` is regenerated on every run from the descriptor compiled into
`pkg/api/api.pb.go`.  The theorems below pin the field lists of exactly the messages of `coverage`
and map each field to the `Item` constructor (or to the reason it carries no ownership).  A field
added to one of these messages makes `adjustable_fields_pinned` fail until the model — and with it the
statement of "two plugins setting the same item" — has been extended to it: the correspondence
alone would not notice, because no generator would ever set the new field.  Messages no plugin
adjusts through (pods, requests, events) are not pinned: the protocol can grow there freely.
-/
namespace Nri.Props.Coverage
open Nri.Wire Nri.Wire.Extracted

def fieldNames (n : String) : List String :=
  match apiSchema.find? (·.name == n) with
  | some m => m.fields.map (·.name)
  | none => []

/-- What the collector model does with a field a plugin can set. -/
inductive Role
  | item (it : String)        -- ownable: the `Result.Item` constructor(s) it is claimed as
  | key                       -- identifies the item inside its family (map key, destination, path, …)
  | value                     -- travels with its item, owned through it
  | section                   -- a sub-message whose fields are listed separately
  | appended                  -- collected from every plugin without ownership (hooks)
  | target                    -- names the container an update is for
  | flag                      -- `ignore_failure`
  | notModelled (why : String)
  deriving DecidableEq, Repr

/-- every field of every message a plugin adjusts or updates a container through -/
def coverage : List (String × List (String × Role)) := [
  ("ContainerAdjustment", [
    ("annotations", .item "annotation"), ("mounts", .item "mount"), ("env", .item "env"),
    ("hooks", .appended), ("linux", .section), ("rlimits", .item "rlimit"),
    ("CDI_devices", .item "cdi"), ("args", .item "args")]),
  ("LinuxContainerAdjustment", [
    ("devices", .item "device"), ("resources", .section), ("cgroups_path", .item "cgroupsPath"),
    ("oom_score_adj", .item "oomScoreAdj")]),
  ("ContainerUpdate", [("container_id", .target), ("linux", .section), ("ignore_failure", .flag)]),
  ("LinuxContainerUpdate", [("resources", .section)]),
  ("LinuxResources", [
    ("memory", .section), ("cpu", .section), ("hugepage_limits", .item "hugepage"),
    ("blockio_class", .item "blockio"), ("rdt_class", .item "rdt"), ("unified", .item "unified"),
    ("devices", .notModelled "NRI v1 emulation field: no claim in result.go, dropped by LinuxResources.Copy (DESIGN §13)"),
    ("pids", .item "pids")]),
  ("LinuxMemory", [
    ("limit", .item "memLimit"), ("reservation", .item "memReservation"), ("swap", .item "memSwap"),
    ("kernel", .item "memKernel"), ("kernel_tcp", .item "memKernelTcp"), ("swappiness", .item "memSwappiness"),
    ("disable_oom_killer", .item "memDisableOom"), ("use_hierarchy", .item "memUseHierarchy")]),
  ("LinuxCPU", [
    ("shares", .item "cpuShares"), ("quota", .item "cpuQuota"), ("period", .item "cpuPeriod"),
    ("realtime_runtime", .item "cpuRtRuntime"), ("realtime_period", .item "cpuRtPeriod"),
    ("cpus", .item "cpusetCpus"), ("mems", .item "cpusetMems")]),
  ("LinuxPids", [("limit", .value)]),
  ("HugepageLimit", [("page_size", .key), ("limit", .value)]),
  ("POSIXRlimit", [("type", .key), ("hard", .value), ("soft", .value)]),
  ("Mount", [("destination", .key), ("type", .value), ("source", .value), ("options", .value)]),
  ("LinuxDevice", [("path", .key), ("type", .value), ("major", .value), ("minor", .value),
                   ("file_mode", .value), ("uid", .value), ("gid", .value)]),
  ("KeyValue", [("key", .key), ("value", .value)]),
  ("CDIDevice", [("name", .key)]) ]

/-- The regenerated protocol has exactly the adjustable fields the table assigns a role to — no
    field a plugin could set is unknown to the model. -/
theorem adjustable_fields_pinned :
    coverage.all (fun (m, fs) => fieldNames m == fs.map (·.1)) = true := by decide +kernel

/-- The names of the constructors of `Result.Item`, as strings, in declaration order: what the
    `.item` roles of `coverage` are matched against. That each string spells the constructor at
    its position is by reading it against `itemWitnesses`; the theorem below pins only their number. -/
def itemConstructors : List String :=
  ["annotation", "mount", "device", "cdi", "env", "args", "hugepage", "unified", "rlimit",
   "memLimit", "memReservation", "memSwap", "memKernel", "memKernelTcp", "memSwappiness",
   "memDisableOom", "memUseHierarchy", "cpuShares", "cpuQuota", "cpuPeriod", "cpuRtRuntime",
   "cpuRtPeriod", "cpusetCpus", "cpusetMems", "pids", "blockio", "rdt", "cgroupsPath", "oomScoreAdj"]

/-- one value of every constructor of `Result.Item`, in declaration order: adding or removing a
    constructor makes the `match` of `ctorIndex` below non-exhaustive or this list ill-typed -/
def itemWitnesses : List Nri.Result.Item :=
  [.annotation [], .mount [], .device [], .cdi [], .env [], .args, .hugepage [], .unified [], .rlimit [],
   .memLimit, .memReservation, .memSwap, .memKernel, .memKernelTcp, .memSwappiness, .memDisableOom,
   .memUseHierarchy, .cpuShares, .cpuQuota, .cpuPeriod, .cpuRtRuntime, .cpuRtPeriod, .cpusetCpus,
   .cpusetMems, .pids, .blockio, .rdt, .cgroupsPath, .oomScoreAdj]

def ctorIndex : Nri.Result.Item → Nat
  | .annotation _ => 0 | .mount _ => 1 | .device _ => 2 | .cdi _ => 3 | .env _ => 4 | .args => 5
  | .hugepage _ => 6 | .unified _ => 7 | .rlimit _ => 8 | .memLimit => 9 | .memReservation => 10
  | .memSwap => 11 | .memKernel => 12 | .memKernelTcp => 13 | .memSwappiness => 14
  | .memDisableOom => 15 | .memUseHierarchy => 16 | .cpuShares => 17 | .cpuQuota => 18
  | .cpuPeriod => 19 | .cpuRtRuntime => 20 | .cpuRtPeriod => 21 | .cpusetCpus => 22
  | .cpusetMems => 23 | .pids => 24 | .blockio => 25 | .rdt => 26 | .cgroupsPath => 27
  | .oomScoreAdj => 28

/-- the ownable fields of the protocol and the constructors of `Result.Item` are in one-to-one
    correspondence: every `.item` role names a constructor, every constructor is named by exactly
    one field, and the witness list enumerates the constructors without repetition. -/
theorem ledger_covers_protocol :
    let claimed := coverage.flatMap (fun (_, fs) => fs.filterMap fun (_, r) =>
        match r with | .item it => some it | _ => none)
    (claimed.all (itemConstructors.contains ·) && itemConstructors.all (claimed.contains ·) &&
      claimed.length == 29 && claimed.eraseDups.length == 29 && itemConstructors.length == 29) = true ∧
    itemWitnesses.map ctorIndex = List.range 29 := by decide +kernel

end Nri.Props.Coverage
