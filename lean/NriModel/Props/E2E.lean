import NriModel.Lemmas.DispatchCollect
import NriModel.Lemmas.DispatchResult
import NriModel.Props.C07
import NriModel.Props.C01
import NriModel.Props.C02
import NriModel.Props.C15
import NriModel.Props.C17
/-!
# End to end: the request loop (C06/C07) composed with the response collector (C01–C05)

`Nri.Dispatch.request` models the loop of `Adaptation.CreateContainer / UpdateContainer /
StopContainer` over the registered plugins — subscription filter, per-plugin call with its
fault outcomes, veto, deferred pruning — with result collection abstracted as a `Merger`.
`Nri.Result` models what the collector does with one response. Here the two are plugged
together: the merger IS the collector, so the theorems of C01–C05, which speak about chains of
responses, apply to what the runtime's loop actually feeds the collector: the responses of the
subscribed plugins whose call succeeded, in index order.
-/
namespace Nri.Props.E2E
open Nri Nri.NApi Nri.Result Nri.Ledger Nri.Dispatch Nri.Events

/-- the name the collector knows a plugin by: `p.name()` = index-name -/
def fullName (p : Dispatch.Plugin) : Result.Plugin := p.idx ++ '-' :: p.name

/-- result.go as the loop's merger, for a request that starts the collector in `st0`
    (`collectCreateContainerResult` …): `apply` = `result.apply(rpl, plugin.name())`, the reply
    = the adjustment and the update list handed to the runtime. -/
def collector (st0 : State) : Merger Response State (Adjustment × List (Option Update)) Result.Err :=
  { init := st0,
    apply := fun st p r => Result.apply Quirks.fixed st (fullName p) r,
    finish := fun st => (st.reply, replyUpdates st) }

/-- the chain the collector sees: responses of subscribed, non-failing plugins, by name -/
def chainOf (rs : List (Dispatch.Plugin × Response)) : List (Result.Plugin × Option Response) :=
  rs.map fun (p, r) => (fullName p, some r)

theorem combine_collector (st0 : State) (rs : List (Dispatch.Plugin × Response)) :
    (∀ st, combine (collector st0) st rs = .ok st' → run Quirks.fixed st (chainOf rs) = .ok st') ∧
    (∀ st, (∃ pe, combine (collector st0) st rs = .error pe) ↔ (∃ e, run Quirks.fixed st (chainOf rs) = .error e)) := by
  have key := run_eq_combine Quirks.fixed fullName (collector st0) (fun _ _ _ => rfl) rs
  constructor
  · intro st h
    rw [chainOf, key, h]
  · intro st
    rw [chainOf, key]
    cases combine (collector st0) st rs with
    | ok a => exact ⟨fun ⟨_, h⟩ => (nomatch h), fun ⟨_, h⟩ => (nomatch h)⟩
    | error pe => exact ⟨fun _ => ⟨_, rfl⟩, fun _ => ⟨_, rfl⟩⟩

/-- **End to end (success).** When no subscribed plugin answers with its own error, a request
    succeeds exactly when the collector accepts the chain of ok responses, and then its reply is
    the collector's reply for that chain: plugins that are unsubscribed, disconnected, time out
    or break the protocol are as if absent. -/
theorem E2E_reply (st0 : State) (T : Nat) (ev : EventNo) (pcs : List (Dispatch.Plugin × Call Response))
    (hv : hasVeto T ev pcs = false) :
    (∀ st', run Quirks.fixed st0 (chainOf (okResponses T ev pcs)) = .ok st' →
        (request (collector st0) T ev pcs).1 = .ok (st'.reply, replyUpdates st')) ∧
    ((∃ e, run Quirks.fixed st0 (chainOf (okResponses T ev pcs)) = .error e) →
        ∃ p e, (request (collector st0) T ev pcs).1 = .error (.merge p e)) := by
  rw [(C07.C07_result (collector st0) T ev pcs hv).1, show (collector st0).init = st0 from rfl, chainOf,
    run_eq_combine Quirks.fixed fullName (collector st0) (fun _ _ _ => rfl)]
  cases combine (collector st0) st0 (okResponses T ev pcs) with
  | ok st2 =>
    refine ⟨fun st' hr => ?_, fun ⟨_, h⟩ => (nomatch h)⟩
    cases hr
    rfl
  | error pe => exact ⟨fun _ hr => (nomatch hr), fun _ => ⟨pe.1, pe.2, rfl⟩⟩

/-- **End to end (C01).** If two subscribed, answering plugins both strictly set one item of
    one container and no answering plugin from the later one back to the earlier one marks it
    for removal, the runtime's request fails — whatever unsubscribed, failing or timed-out
    plugins sit before, between or after them. -/
theorem E2E_collision_fails (st0 : State) (T : Nat) (ev : EventNo) (pcs : List (Dispatch.Plugin × Call Response))
    (hv : hasVeto T ev pcs = false)
    (pre mid post : List (Dispatch.Plugin × Response)) (pi pj : Dispatch.Plugin) (ri rj : Response)
    (hok : okResponses T ev pcs = pre ++ (pi, ri) :: (mid ++ (pj, rj) :: post))
    (c : Cid) (it : Item)
    (hsi : it ∈ setsOn true st0.kind ri c) (hsj : it ∈ setsOn true st0.kind rj c)
    (hnj : it ∉ removesOn st0.kind rj c)
    (hmid : ∀ x ∈ mid, it ∉ removesOn st0.kind x.2 c) :
    ∃ p e, (request (collector st0) T ev pcs).1 = .error (.merge p e) := by
  apply (E2E_reply st0 T ev pcs hv).2
  rw [hok]
  have : chainOf (pre ++ (pi, ri) :: (mid ++ (pj, rj) :: post)) =
      chainOf pre ++ (fullName pi, some ri) :: (chainOf mid ++ (fullName pj, some rj) :: chainOf post) := by
    simp [chainOf]
  rw [this]
  apply C01.C01_collision_flagged st0 (chainOf pre) (chainOf mid) (chainOf post) (fullName pi) (fullName pj) ri rj c it hsi hsj hnj
  intro p r hm
  simp only [chainOf, List.mem_map] at hm
  obtain ⟨x, hx, heq⟩ := hm
  obtain ⟨xp, xr⟩ := x
  simp only [Prod.mk.injEq, Option.some.injEq] at heq
  obtain ⟨_, rfl⟩ := heq
  exact hmid (xp, xr) hx

/-- **End to end (C02).** If the abstract ledger accepts the ok responses of a request (no two
    answering plugins set the same item unless released), the request succeeds with the
    collector's reply. -/
theorem E2E_disjoint_succeeds (st0 : State) (hfresh : st0.owners = []) (T : Nat) (ev : EventNo)
    (pcs : List (Dispatch.Plugin × Call Response)) (hv : hasVeto T ev pcs = false)
    (owned : List (Cid × Item))
    (habs : absRun st0.kind [] ((okResponses T ev pcs).map fun (p, r) => (fullName p, r)) = some owned) :
    ∃ st', (request (collector st0) T ev pcs).1 = .ok (st'.reply, replyUpdates st') := by
  obtain ⟨st', hr⟩ := C02.C02_disjoint st0 hfresh _ owned habs
  refine ⟨st', (E2E_reply st0 T ev pcs hv).1 st' ?_⟩
  have : answeredAll ((okResponses T ev pcs).map fun (p, r) => (fullName p, r)) = chainOf (okResponses T ev pcs) := by
    simp [answeredAll, chainOf, List.map_map, Function.comp_def]
  rw [← this]; exact hr

private def plug (id : Nat) (idx name : String) (events : Mask := Events.valid) (closed := false) : Dispatch.Plugin :=
  { id := id, idx := str idx, name := str name, events := events, closed := closed }
private def memAdj (v : Int) : Response :=
  { adjust := some { hasLinux := true, resources := some { memory := some { limit := some v } } } }
private def okCall (r : Response) (cost : Nat := 1) : Call Response := { out := .ok r, reached := true, cost := cost }

/-- four plugins on a CreateContainer (event 4): 10-a sets the memory limit; 20-b is not
    subscribed; 30-c would take longer than the timeout; 40-d sets the memory limit too -/
private def demo : List (Dispatch.Plugin × Call Response) :=
  [(plug 1 "10" "a", okCall (memAdj 1)),
   (plug 2 "20" "b" (events := Events.bit 1), okCall (memAdj 7)),
   (plug 3 "30" "c", okCall (memAdj 9) (cost := 50)),
   (plug 4 "40" "d", okCall (memAdj 2))]

private def isMergeErr : Except (Dispatch.Err Result.Err) α → Bool
  | .error (.merge _ _) => true
  | _ => false

-- only 10-a and 40-d reach the collector, and their collision fails the request
example : (okResponses 10 4 demo).map (fun x => Str.toS (fullName x.1)) = ["10-a", "40-d"] := by decide +kernel
example : isMergeErr (request (collector (initCreate { id := str "c0" })) 10 4 demo).1 = true := by decide +kernel
example : hasVeto 10 4 demo = false := by decide

end Nri.Props.E2E

/-! ## Subscription end to end: handler set (stub) → Configure answer → runtime's mask → relay

`Nri.Stub` (C15) says what mask a stub-built plugin answers Configure with, `Nri.Registration`
(C17) what the runtime stores for an answer, `Nri.Dispatch` (C06) which plugins the relay loop
calls for an event. Composed: a plugin is called for exactly the events it implements (or the
subset its Configure handler asked for). -/
namespace Nri.Props.E2E.Subscription
open Nri Nri.Events Nri.Props

/-- A stub-built plugin of type `p` (no Configure handler, or one that asks for nothing) is
    called by the runtime's relay loop for lifecycle event `e` iff it implements the handler
    for `e`: the stub's answer is accepted unchanged by the runtime's mask validation, and the
    loop's subscription test on the stored mask is the handler bit. -/
theorem E2E_subscription_default {β : Type} (p : Stub.Plugin) (hd : Stub.Handlers)
    (hnew : Stub.setupHandlers p = .ok hd) (b : Stub.Behaviour β) (c r v : Str)
    (hask : p.configure = true → (b .configure (.config c r v)).err = none ∧ (b .configure (.config c r v)).events = 0#32)
    (q : Dispatch.Plugin) (e : Nat) (h1 : 1 ≤ e) (h13 : e ≤ 13) :
    ∃ m, (Stub.configure hd b c r v).2 = .ok m ∧ Registration.configureMask m = .ok m ∧
      (q.events = m → (Dispatch.subscribed e q = true ↔ p.ev.getLsbD (e - 1) = true)) := by
  have hcfg := C15.C15_configure p hd hnew b c r v
  have hm : (Stub.configure hd b c r v).2 = .ok (Stub.subscribe p) := by
    rw [hcfg]
    by_cases hc : p.configure = true
    · obtain ⟨he, hz⟩ := hask hc
      simp [hc, he, hz]
    · simp [hc]
  refine ⟨Stub.subscribe p, hm, C15.C15_runtime_view p hd hnew b c r v _ hm, ?_⟩
  intro hq
  unfold Dispatch.subscribed
  rw [hq, C15.C15_mask p e h1]
  constructor
  · exact fun h => h.2
  · exact fun h => ⟨h13, h⟩

end Nri.Props.E2E.Subscription
