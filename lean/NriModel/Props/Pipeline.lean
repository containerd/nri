import NriModel.Props.C03
import NriModel.Props.C04
import NriModel.Props.C01
import NriModel.Props.C05
/-!
# Plugins as functions of what they are shown: NRI is a pipeline of spec transformers

The theorems of C01–C05 speak about chains of plugin *responses*. A real plugin computes its
response from the container it is shown, so the responses of a chain are not independent of the
collector: plugin *i* answers `fᵢ (viewᵢ)` where `viewᵢ` is what the collector shows it, which
depends on the answers of plugins 0 … i−1. Here a plugin is a function
`Handler := Shown → Option Response` of the container and resources it is shown (`none`: not
subscribed / dropped), the request is `runF` (each handler applied to the view of the state it is called in), and the
theorems of C03 and C04 are lifted to that setting by instantiating them with the responses the
handlers actually give (`responsesAlong`).

The handler-driven loop is the response-driven loop on the responses given along the way
(`runF_eq_run`, `viewsF_eq_viewsAlong`), so every theorem of C01–C05 about `run` applies to plugins
that look at what they are shown; the `pipeline_*` theorems are C03, C04, C01 and C05 so instantiated.
For C03 this reads: the spec the runtime obtains from the combined reply is `SpecEq` to the one
obtained by a *pipeline* — apply `f₀` to the original, apply its adjustment to the spec, show the
next plugin the overlaid container, apply its adjustment, ….

What this does NOT say: that NRI equals a pipeline in which each plugin is fed a container derived
from the sequentially adjusted *spec*. Every handler is fed the collector's own view; view and
spec are related only by `ViewAgrees` (environment as a map, mounts up to order, memory fields
other than the limit and the block-I/O / RDT classes outside the relation), so a handler whose
answer depends on what lies outside that relation may answer differently in the two worlds.
The statements are C03 / C04 / C01 / C05 on the responses actually given.
-/
namespace Nri.Props.Pipeline
open Nri Nri.NApi Nri.Result Nri.Compose Nri.Generate Nri.Ledger Nri.UpdateWalk

/-- what a plugin is shown: the container (creation requests: as adjusted so far) and the
    resources (update requests: as updated so far) -/
abbrev Shown := Container × Resources

def shown (st : State) : Shown := (st.view, st.reqRes)

/-- a plugin as a function of what it is shown; `none` = not subscribed or dropped -/
abbrev Handler := Shown → Option Response

/-- the loop of `Adaptation.CreateContainer` / `UpdateContainer` / `StopContainer` (the request is
    the starting state's `kind`) over plugins that compute their response from what they are shown -/
def runF (q : Quirks) (st : State) : List (Plugin × Handler) → Except Err State
  | [] => .ok st
  | (p, f) :: rest =>
    match f (shown st) with
    | none => runF q st rest
    | some r =>
      match apply q st p r with
      | .error e => .error e
      | .ok st' => runF q st' rest

/-- the responses the handlers give along the run (up to and including a rejected one) -/
def responsesAlong (q : Quirks) (st : State) : List (Plugin × Handler) → List (Plugin × Option Response)
  | [] => []
  | (p, f) :: rest =>
    match f (shown st) with
    | none => (p, none) :: responsesAlong q st rest
    | some r =>
      match apply q st p r with
      | .error _ => [(p, some r)]
      | .ok st' => (p, some r) :: responsesAlong q st' rest

/-- the states in which the handlers are called -/
def viewsF (q : Quirks) (st : State) : List (Plugin × Handler) → List State
  | [] => []
  | (p, f) :: rest =>
    match f (shown st) with
    | none => st :: viewsF q st rest
    | some r =>
      match apply q st p r with
      | .error _ => [st]
      | .ok st' => st :: viewsF q st' rest

theorem runF_eq_run (q : Quirks) (hs : List (Plugin × Handler)) (st : State) :
    runF q st hs = run q st (responsesAlong q st hs) := by
  fun_induction responsesAlong q st hs <;> simp only [runF, run, *]

theorem viewsF_eq_viewsAlong (q : Quirks) (hs : List (Plugin × Handler)) (st : State) :
    viewsF q st hs = viewsAlong q st (responsesAlong q st hs) := by
  fun_induction responsesAlong q st hs <;> simp only [viewsF, viewsAlong, *]

/-- every response in `responsesAlong` is the handler's answer to the view of the state at
    that position: position `i` of the responses is `fᵢ` applied to position `i` of the views -/
theorem response_is_handler_of_view (q : Quirks) (hs : List (Plugin × Handler)) (st : State)
    (i : Nat) (s : State) (h : (viewsF q st hs)[i]? = some s) :
    ∃ p f, hs[i]? = some (p, f) ∧ (responsesAlong q st hs)[i]? = some (p, f (shown s)) := by
  fun_induction responsesAlong q st hs generalizing i with
  | case1 => cases h
  | case2 st p f rest hf ih =>
    -- not subscribed: the rest of the chain is called in the same state
    simp only [viewsF, hf] at h
    cases i with
    | zero =>
      cases h
      exact ⟨p, f, rfl, by simp only [List.getElem?_cons_zero, hf]⟩
    | succ n => exact ih n h
  | case3 st p f rest r hf e ha =>
    -- the response is rejected: the chain ends here
    simp only [viewsF, hf, ha] at h
    cases i with
    | zero =>
      cases h
      exact ⟨p, f, rfl, by simp only [List.getElem?_cons_zero, hf]⟩
    | succ n => cases h
  | case4 st p f rest r hf st' ha ih =>
    -- the response is accepted: the rest of the chain is called in the new state
    simp only [viewsF, hf, ha] at h
    cases i with
    | zero =>
      cases h
      exact ⟨p, f, rfl, by simp only [List.getElem?_cons_zero, hf]⟩
    | succ n => exact ih n h

def adjustmentsAlong (c0 : Container) (hs : List (Plugin × Handler)) : List Adjustment :=
  adjsOf (responsesAlong Quirks.fixed (initCreate c0) hs)

/-- **C03 for plugins that look at what they are shown.** If the creation request over the
    handlers `hs` succeeds with combined reply `st'.reply`, the adjustments returned along the way
    are well-formed, and applying them one after another to the original spec succeeds with
    `sS`, then applying the combined reply to the original spec succeeds with a spec `SpecEq`
    to `sS`. -/
theorem pipeline_reply {ext : Externals} {bad : List Str}
    (hi : ext.injectCDI = some (recordingInjector bad) ∨ ext.injectCDI = none)
    (c0 : Container) (hs : List (Plugin × Handler)) (st' : State)
    (h : runF Quirks.fixed (initCreate c0) hs = .ok st')
    (hwf : ∀ a ∈ adjustmentsAlong c0 hs, WellFormed a)
    (hs0 : SpecWF (toSpec c0)) (sS : Oci.Spec)
    (hseq : seqAdjust ext (toSpec c0) ((adjustmentsAlong c0 hs).map toGen) = .ok sS) :
    ∃ sC, adjust ext (toSpec c0) (toGen st'.reply) = .ok sC ∧ SpecEq sC sS := by
  rw [runF_eq_run] at h
  unfold adjustmentsAlong at hwf hseq
  rw [← C03.adjs_eq] at hwf hseq
  exact C03.C03 hi c0 _ st' h hwf hs0 sS hseq

/-- **C04 for plugins that look at what they are shown.** At every position `i`: the state `s`
    in which handler `i` is called shows a container that `ViewAgrees` with whatever spec the
    generator makes of the original spec with the reply combined so far — and the response
    recorded at that position is that handler's answer to exactly that container. -/
theorem pipeline_views {ext : Externals} {bad : List Str}
    (hi : ext.injectCDI = some (recordingInjector bad) ∨ ext.injectCDI = none)
    (c0 : Container) (hs : List (Plugin × Handler)) (hs0 : SpecWF (toSpec c0))
    (hg : ∀ a ∈ adjustmentsAlong c0 hs, ViewGuard c0 a) (i : Nat) (s : State)
    (h : (viewsF Quirks.fixed (initCreate c0) hs)[i]? = some s) :
    (∀ sC, adjust ext (toSpec c0) (toGen s.reply) = .ok sC → ViewAgrees s.view sC) ∧
    (∃ p f, hs[i]? = some (p, f) ∧
      (responsesAlong Quirks.fixed (initCreate c0) hs)[i]? = some (p, f (shown s))) := by
  refine ⟨?_, response_is_handler_of_view _ hs _ i s h⟩
  rw [viewsF_eq_viewsAlong] at h
  exact (C04.C04_view_agrees hi c0 _ hs0 hg i s h).1

/-- **C04 (update requests) for plugins that look at what they are shown.** Handler `i` of an
    update request is shown exactly what the specification walk yields over the answers the
    earlier handlers gave (each computed from what *it* was shown). -/
theorem pipeline_update_views (id : Cid) (req : Resources) (hs : List (Plugin × Handler)) (i : Nat)
    (s : State) (h : (viewsF Quirks.fixed (initUpdate id req) hs)[i]? = some s) :
    s.reqRes = (walk (specBase (.update id) req)
        (answered ((responsesAlong Quirks.fixed (initUpdate id req) hs).take i))).get
        (specBase (.update id) req) id := by
  rw [viewsF_eq_viewsAlong] at h
  exact C04.C04_update_dropped id req _ i s h

/-- **C05 (value clause) for plugins that look at what they are shown.** After a successful
    request over handlers every returned update entry carries exactly what the specification
    walk yields for its target over the answers given along the way. -/
theorem pipeline_exact_fields (st0 st' : State) (req : Resources) (hs : List (Plugin × Handler))
    (hinit : (∃ id, st0 = initUpdate id req) ∨ st0 = initStop ∨ ∃ c0, st0 = initCreate c0)
    (h : runF Quirks.fixed st0 hs = .ok st') :
    ∀ e, some e ∈ replyUpdates st' →
      e.resources = some ((walk (specBase st0.kind req) (answered (responsesAlong Quirks.fixed st0 hs))).get
        (specBase st0.kind req) e.containerId) := by
  rw [runF_eq_run] at h
  exact C05.C05_exact_fields_dropped st0 st' req _ hinit h

/-- **C01 for plugins that look at what they are shown.** When a request over handlers succeeds,
    no item was strictly set by two of the answers given along the way without a removal from
    the later one (or one in between) back to the earlier. -/
theorem pipeline_no_silent_merge (st st' : State) (hs : List (Plugin × Handler))
    (pre mid post : List (Plugin × Option Response)) (pi pj : Plugin) (ri rj : Response)
    (c : Cid) (it : Item)
    (hok : runF Quirks.fixed st hs = .ok st')
    (hdec : responsesAlong Quirks.fixed st hs = pre ++ (pi, some ri) :: (mid ++ (pj, some rj) :: post))
    (hsi : it ∈ setsOn true st.kind ri c) (hsj : it ∈ setsOn true st.kind rj c) :
    it ∈ removesOn st.kind rj c ∨ ∃ p r, (p, some r) ∈ mid ∧ it ∈ removesOn st.kind r c := by
  rw [runF_eq_run, hdec] at hok
  exact C01.C01_no_silent_merge st st' pre mid post pi pj ri rj c it hok hsi hsj

/-! ### non-vacuity: a chain whose second plugin's answer depends on what the first did -/

def hFirst : Handler := fun _ =>
  some { adjust := some { annotations := [(str "k0", str "v1")] } }

/-- copies whatever value it is shown for `k0` into the environment variable `SEEN` -/
def hSecond : Handler := fun (c, _) =>
  some { adjust := some { env := [{ key := str "SEEN", value := (AList.lookup c.annotations (str "k0")).getD (str "none") }] } }

def demoC : Container := { id := str "c0", annotations := [(str "orig", str "x")], env := [str "PATH=/bin"] }
def demoHs : List (Plugin × Handler) := [(str "10-a", hFirst), (str "20-b", hSecond)]

/-- the second plugin saw the first plugin's annotation, and its answer (computed from it)
    is in the combined reply -/
example :
    (match runF Quirks.fixed (initCreate demoC) demoHs with
     | .ok st' => some (st'.reply.env.map fun kv => (kv.key, kv.value))
     | .error _ => none) = some [(str "SEEN", str "v1")] := by decide +kernel

example : (adjustmentsAlong demoC demoHs).length = 2 := by decide +kernel

/-- update request: the second plugin doubles whatever memory limit it is shown into CPU shares -/
def uFirst : Handler := fun _ =>
  some { updates := [{ containerId := str "c0", resources := some { memory := some { limit := some 21 } } }] }
def uSecond : Handler := fun (_, r) =>
  some { updates := [{ containerId := str "c0",
                       resources := some { cpu := some { shares := ((r.memory.getD {}).limit.map fun l => (2 * l).toNat) } } }] }

example :
    (match runF Quirks.fixed (initUpdate (str "c0") { pids := some 5 }) [(str "10-a", uFirst), (str "20-b", uSecond)] with
     | .ok st' => some ((st'.reqRes.memory.getD {}).limit, (st'.reqRes.cpu.getD {}).shares, st'.reqRes.pids)
     | .error _ => none) = some (some 21, some 42, some 5) := by decide +kernel

end Nri.Props.Pipeline
